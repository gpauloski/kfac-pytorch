/-
Helpers for C19 (hyper-parameter scheduler, KV.Sched of Model/Misc.lean): the scheduler's run is six
independent folds, one per parameter (`schedRun_eq`), and the constructor check by recursion (`ctorOk_iff`).
-/
import KfacVerif.Model.Misc
import Mathlib.Algebra.BigOperators.Group.List.Basic
import Mathlib.Algebra.Ring.Rat

namespace KV.Sched

/-- one scheduler update of a float parameter -/
def stepR (o : Option (Nat → Rat)) (v : Rat) (s : Nat) : Rat :=
  match o with | some f => v * f s | none => v

/-- one scheduler update of an interval parameter -/
def stepI (o : Option (Nat → Rat)) (v : Int) (s : Nat) : Int :=
  match o with | some f => truncRat ((v : Rat) * f s) | none => v

theorem schedRun_nil (l : Lambdas) (p : Params) : schedRun l p [] = p := rfl

theorem schedRun_cons (l : Lambdas) (p : Params) (c : Nat × Option Nat)
    (cs : List (Nat × Option Nat)) :
    schedRun l p (c :: cs) = schedRun l (schedStep l p c.1 c.2) cs := rfl

theorem schedRun_eq (l : Lambdas) (calls : List (Nat × Option Nat)) : ∀ p : Params,
    schedRun l p calls =
      { fus := calls.foldl (fun v c => stepI l.fus v (c.2.getD c.1)) p.fus
        ius := calls.foldl (fun v c => stepI l.ius v (c.2.getD c.1)) p.ius
        damping := calls.foldl (fun v c => stepR l.damping v (c.2.getD c.1)) p.damping
        decay := calls.foldl (fun v c => stepR l.decay v (c.2.getD c.1)) p.decay
        kl := calls.foldl (fun v c => stepR l.kl v (c.2.getD c.1)) p.kl
        lr := calls.foldl (fun v c => stepR l.lr v (c.2.getD c.1)) p.lr } := by
  induction calls with
  | nil => intro p; rfl
  | cons c cs ih => intro p; rw [schedRun_cons, ih]; rfl

theorem foldl_stepR_some {γ : Type} (f : Nat → Rat) (g : γ → Nat) (cs : List γ) : ∀ v : Rat,
    cs.foldl (fun v c => stepR (some f) v (g c)) v = v * (cs.map fun c => f (g c)).prod := by
  induction cs with
  | nil => intro v; exact (mul_one v).symm
  | cons c cs ih =>
    intro v
    rw [List.foldl_cons, ih, List.map_cons, List.prod_cons, ← mul_assoc]
    rfl

/-- `zip` stops at the shorter list and `getD · false` passes every position beyond it, so the lengths
    do not matter -/
theorem ctorOk_iff (s c : List Bool) :
    ctorOk s c = true ↔ ∀ i, ¬ (s.getD i false = true ∧ c.getD i false = true) := by
  induction s generalizing c with
  | nil => exact ⟨fun _ _ h => Bool.false_ne_true h.1, fun _ => rfl⟩
  | cons a s ih =>
    cases c with
    | nil => exact ⟨fun _ _ h => Bool.false_ne_true h.2, fun _ => rfl⟩
    | cons b c =>
      have hc : ctorOk (a :: s) (b :: c) = (!(a && b) && ctorOk s c) := rfl
      rw [hc, Bool.and_eq_true, ih c, Bool.not_eq_true', ← Bool.not_eq_true, Bool.and_eq_true]
      exact ⟨fun ⟨h0, hr⟩ i => match i with | 0 => h0 | j + 1 => hr j,
        fun h => ⟨h 0, fun j => h (j + 1)⟩⟩

end KV.Sched
