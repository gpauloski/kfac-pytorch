/-
Invariants of the M-Precond state machine, part 4: histories.  The script of ANY history passes the
stall-tolerant check; the script of a history of whole iterations (`accum` training passes, then
`step`; anything else at the boundaries) is stall-free.  Then the definitions of the C03 statements
(histories of whole iterations, the stall-tolerant script check) and their bridges to these invariants.
Core Lean only.
-/
import KfacVerif.Lemmas.PrecondInv3

namespace KV.PI
open KV KV.Precond
open KV.Sched2 (wf)

theorem Good.exec {c s} (ha : AsgOK c) (h : Good false c μ s) (op : Op) :
    GoodE false c (Precond.exec c s op) := by
  refine iteInduction (fun _ => ⟨_, h⟩) fun _ => ?_
  cases op with
  | fwdBwd t => exact h.fwdBwd ha.world_pos t
  | step => exact h.stepAll ha
  | resetBatch => exact ⟨_, h.resetBatch⟩
  | memUsage => exact ⟨_, h.memUsage⟩
  | save f => exact ⟨_, h.saveState f⟩
  | saveLoad f ci => exact ⟨_, h.saveLoad ha f ci⟩
  | setHyper hy => exact ⟨_, h.congr rfl rfl rfl rfl h.mini⟩

theorem GoodE.run {c s} (ha : AsgOK c) (h : GoodE false c s) (ops : List Op) :
    GoodE false c (Precond.run c s ops) :=
  List.foldlRecOn (motive := GoodE false c) _ _ h fun _ ⟨_, hs⟩ op _ => hs.exec ha op

theorem wfS_run (c : Cfg) (ha : AsgOK c) (hy : Hyper) (ops : List Op) :
    wfS c.world [] (Precond.run c (St.init c hy) ops).acts = true := by
  obtain ⟨_, h⟩ := GoodE.run ha ⟨_, (Good.init c hy).weaken false⟩ ops
  exact h.wfs

theorem MiniIs_zero (c : Cfg) : MiniIs c (List.replicate c.layers.length 0) 0 :=
  ⟨List.length_replicate, fun _ _ => getD_replicate_self ..⟩

/-- inside an iteration, after at most `k` training passes -/
def Pk (c : Cfg) (k : Nat) (s : St) : Prop :=
  ∃ μ, Good false c μ s ∧ stallFree s ∧
    (s.err = none → ∃ b, QB b s ∧ ∃ j, j ≤ k ∧ MiniIs c μ j ∧ ((j < c.accum ∨ c.hook = false) → b = []))

/-- at an iteration boundary -/
def Bd (c : Cfg) (s : St) : Prop :=
  ∃ μ, Good false c μ s ∧ stallFree s ∧ (s.err = none → Good true c (List.replicate c.layers.length 0) s)

theorem Bd.ofStrict {c s} (g : Good true c (List.replicate c.layers.length 0) s) : Bd c s :=
  ⟨_, g.weaken false, g.sF rfl, fun _ => g⟩

theorem Bd.init (c : Cfg) (h : Hyper) : Bd c (St.init c h) := Bd.ofStrict (Good.init c h)

theorem Bd.toP0 {c s} (h : Bd c s) : Pk c 0 s := by
  obtain ⟨μ, g, sf, hs⟩ := h
  cases he : s.err with
  | some e => exact ⟨μ, g, sf, fun h => by rw [he] at h; cases h⟩
  | none =>
    have g' := hs he
    exact ⟨_, g'.weaken false, sf, fun _ => ⟨[], g'.toQB, 0, Nat.le_refl 0, MiniIs_zero c, fun _ => rfl⟩⟩

theorem fires_false {c : Cfg} {j1 : Nat} (hj : 0 < j1) (h : j1 < c.accum ∨ c.hook = false) :
    fires c j1 = false := by
  unfold fires
  rcases h with h | h
  · have h0 : (j1 == 0) = false := beq_false_of_ne (by omega)
    rw [Nat.mod_eq_of_lt h, h0, Bool.and_false]
  · rw [h, Bool.false_and]

theorem pass_step {c s} (hw : 0 < c.world) (k : Nat) (hk : k < c.accum) (h : Pk c k s) :
    Pk c (k + 1) (Precond.exec c s (.fwdBwd true)) := by
  obtain ⟨μ, g, sf, hs⟩ := h
  refine iteInduction (fun he => ⟨μ, g, sf, fun h => by rw [h] at he; cases he⟩) fun he => ?_
  obtain ⟨b, hq, j, hj, hμ, hb⟩ := hs (Option.not_isSome_iff_eq_none.mp he)
  cases hb (Or.inl (by omega))
  obtain ⟨μ', b', g', q', hcase⟩ := pass_ok hw j g hq hμ
  refine ⟨μ', g', q'.sf, fun _ => ⟨b', q', ?_⟩⟩
  rcases hcase with ⟨hμ', hb'⟩ | ⟨hμ', hb'⟩
  · exact ⟨j, by omega, hμ', fun _ => hb'⟩
  · exact ⟨j + 1, by omega, hμ', fun hh => hb' (fires_false (by omega) hh)⟩

theorem passes {c} (hw : 0 < c.world) (n : Nat) :
    ∀ (k : Nat) (s : St), k + n ≤ c.accum → Pk c k s →
      Pk c (k + n) (Precond.run c s (List.replicate n (.fwdBwd true))) := by
  induction n with
  | zero => intro k s _ h; exact h
  | succ n ih =>
    intro k s hk h
    rw [List.replicate_succ, run_cons]
    have := ih (k + 1) _ (by omega) (pass_step hw k (by omega) h)
    rw [show k + (n + 1) = k + 1 + n by omega]
    exact this

theorem step_ok {c s} (ha : AsgOK c) (h : Pk c c.accum s) : Bd c (Precond.exec c s .step) := by
  obtain ⟨μ, g, sf, hs⟩ := h
  refine iteInduction (fun he => ⟨μ, g, sf, fun h => by rw [h] at he; cases he⟩) fun he => ?_
  obtain ⟨b, hq, j, hj, hμ, hb⟩ := hs (Option.not_isSome_iff_eq_none.mp he)
  exact Bd.ofStrict (g.stepAll' ha fun _ => ⟨b, hq, fun h => hb (Or.inr h)⟩)

theorem block_ok {c s} (ha : AsgOK c) (h : Bd c s) :
    Bd c (Precond.exec c (Precond.run c s (List.replicate c.accum (.fwdBwd true))) .step) := by
  have := passes ha.world_pos c.accum 0 s (by omega) h.toP0
  rw [Nat.zero_add] at this
  exact step_ok ha this

theorem fwdBwd_eval (c : Cfg) (s : St) : Precond.fwdBwd c s false = s := rfl

theorem other_ok {c s} (ha : AsgOK c) (op : Op) (h1 : op ≠ .step) (h2 : op ≠ .fwdBwd true) (h : Bd c s) :
    Bd c (Precond.exec c s op) := by
  obtain ⟨μ, g, sf, hs⟩ := h
  refine iteInduction (fun he => ⟨μ, g, sf, fun h => by rw [h] at he; cases he⟩) fun he => ?_
  have g' := hs (Option.not_isSome_iff_eq_none.mp he)
  cases op with
  | fwdBwd t =>
    cases t
    · exact Bd.ofStrict g'
    · exact absurd rfl h2
  | step => exact absurd rfl h1
  | resetBatch => exact Bd.ofStrict g'.resetBatch
  | memUsage => exact Bd.ofStrict g'.memUsage
  | save f => exact Bd.ofStrict (g'.saveState f)
  | saveLoad f ci => exact Bd.ofStrict (g'.saveLoad ha f ci)
  | setHyper hy => exact Bd.ofStrict (g'.congr rfl rfl rfl rfl g'.mini)

theorem Bd.wf {c s} (h : Bd c s) : wf c.world s.acts = true := by
  obtain ⟨μ, g, sf, _⟩ := h
  unfold KV.Sched2.wf
  rw [wfAux_eq, g.wfs, Bool.true_and, List.all_eq_true]
  intro a ha
  have : a ∈ s.script := by simpa [St.acts] using ha
  simp [sf a this]

end KV.PI

namespace KV.C03
open KV KV.Sched2 KV.Precond

/-- what C06 proves of every KAISA assignment, restated for the abstract `Assign` -/
structure CfgOK (c : Cfg) : Prop where
  accum_pos : 0 < c.accum
  workers_lt : ∀ l r, r ∈ c.asg.workers l → r < c.world
  invA_mem : ∀ l, c.asg.invA l ∈ c.asg.workers l
  invG_mem : ∀ l, c.asg.invG l ∈ c.asg.workers l
  recv_lt : ∀ r r', r' ∈ c.asg.recv r → r' < c.world
  src_recv : ∀ r l, r < c.world → c.asg.src r l ∈ c.asg.recv r

/-- histories made of whole training iterations: `accum` training passes followed by `step`;
    anything else (eval passes, reset_batch, memory_usage, state_dict, checkpoint round trips,
    scheduler changes) only at iteration boundaries -/
inductive WholeIter (c : Cfg) : List Op → Prop where
  | nil : WholeIter c []
  | iter (rest : List Op) : WholeIter c rest →
      WholeIter c (List.replicate c.accum (.fwdBwd true) ++ .step :: rest)
  | other (op : Op) (rest : List Op) : isStep op = false → isTrainPass op = false →
      WholeIter c rest → WholeIter c (op :: rest)

/-- hyper-parameter schedules never return a zero interval (`steps % 0` is a ZeroDivisionError) -/
def HyperOK (h : Hyper) : Prop := (∀ s, 0 < h.fus.val s) ∧ (∀ s, 0 < h.ius.val s)

def histHyperOK : List Op → Prop
  | [] => True
  | .setHyper h :: t => HyperOK h ∧ histHyperOK t
  | _ :: t => histHyperOK t

def wfAuxS (n : Nat) : List (List Nat) → List GAct → Bool
  | _, [] => true
  | seen, .issue m d :: t =>
    m.all (· < n) && decide (2 ≤ m.length) &&
      (match d.kind with | .broadcast => m.contains d.root | .allreduce => true) &&
      wfAuxS n (seen ++ [m]) t
  | seen, .wait r id :: t => decide (id < seen.length) && (seen.getD id []).contains r && wfAuxS n seen t
  | seen, .stall _ _ :: t => wfAuxS n seen t

theorem wfAuxS_eq_wfS (n : Nat) (seen : List (List Nat)) (acts : List GAct) :
    wfAuxS n seen acts = KV.PI.wfS n seen acts := by
  induction acts generalizing seen with
  | nil => rfl
  | cons a t ih =>
    cases a with
    | issue m d => simp only [wfAuxS, ih]; rfl
    | wait r id => simp only [wfAuxS, KV.PI.wfS, ih]
    | stall r q => simp only [wfAuxS, KV.PI.wfS, ih]

theorem CfgOK.asgOK {c : Cfg} (hc : CfgOK c) : KV.PI.AsgOK c :=
  ⟨hc.workers_lt, hc.invA_mem, hc.invG_mem, hc.recv_lt, hc.src_recv⟩

theorem WholeIter.bd {c : Cfg} (hc : CfgOK c) {ops : List Op} (hw : WholeIter c ops) :
    ∀ s, KV.PI.Bd c s → KV.PI.Bd c (run c s ops) := by
  induction hw with
  | nil => intro s h; exact h
  | iter rest _ ih =>
    intro s h
    rw [run_append, run_cons]
    exact ih _ (KV.PI.block_ok hc.asgOK h)
  | other op rest h1 h2 _ ih =>
    intro s h
    rw [run_cons]
    exact ih _ (KV.PI.other_ok hc.asgOK op (by rintro rfl; cases h1) (by rintro rfl; cases h2) h)

end KV.C03
