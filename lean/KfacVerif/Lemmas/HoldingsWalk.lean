/-
Every operation of M-Precond is a sequence of primitive moves (`KV.HR.Reach`).  A cell program is one
as soon as the cell it writes respects the signatures (`Reach.run`), and that is read off the pure
programs; the operations over all ranks are folds of such steps around the issuing places.
Core Lean only.
-/
import KfacVerif.Lemmas.HoldingsReach

namespace KV.HR
open KV KV.Precond KV.Refine
open KV.Cell (Out)
open KV.BucketLink (putFac)
variable {c : Cfg} {ld bp : Bool} {s : St}

theorem Reach.foldl {α : Type} (f : St → α → St) (ls : List α) (hf : ∀ t a, a ∈ ls → Reach c ld bp t (f t a))
    (s : St) : Reach c ld bp s (ls.foldl f s) :=
  List.foldlRecOn ls f (.refl s) fun t ht a ha => ht.trans (hf t a ha)

theorem Reach.misc {s' : St} (h1 : s'.script = s.script) (h2 : s'.ranks = s.ranks) (h3 : s'.err = s.err)
    (h4 : s'.bucket = s.bucket) (h5 : s'.steps = s.steps) : Reach c ld bp s s' :=
  .single (.misc _ _ h1 h2 h3 h4 fun _ => h5)

theorem Reach.rdSt (s : St) (r : Nat) (sl : Option Slot) : Reach c ld bp s (rdSt s r sl) := by
  rcases sl with _ | ⟨v, _ | id | q⟩
  · exact .refl s
  · exact .refl s
  · exact .single (.emit _ _ nofun)
  · exact .single (.emit _ _ nofun)

theorem Reach.run (s : St) (r l : Nat) (p : Out)
    (hp : p.All fun y => (r ∈ c.asg.workers l ∨ ld = true ∨ sameSO (getL s r l) y) ∧ monoSO (getL s r l) y) :
    Reach c ld bp s (Cell.run s r l p) := by
  have hrd (fs) : Reach c ld bp s (Cell.reads s r (getL s r l) fs) :=
    Reach.foldl _ fs (fun t f _ => .rdSt t r _) s
  cases p with
  | fail rs w => exact (hrd rs).tail (.fail ..)
  | write rs y =>
    refine (hrd rs).tail (.setL _ _ _ _ ?_ ?_) <;> rw [Cell.getL_reads]
    · exact hp.1
    · exact hp.2

theorem Reach.same (s : St) (r l : Nat) {p : Out} (hp : p.All (sameSO (getL s r l))) :
    Reach c ld bp s (Cell.run s r l p) :=
  .run s r l p (hp.imp fun _ h => ⟨.inr (.inr h), h.mono⟩)

theorem Reach.worker (s : St) {r l : Nat} (hw : r ∈ c.asg.workers l ∨ ld = true) {p : Out}
    (hp : p.All (monoSO (getL s r l))) : Reach c ld bp s (Cell.run s r l p) :=
  .run s r l p (hp.imp fun _ h => ⟨hw.elim .inl (.inr ∘ .inl), h⟩)

theorem Reach.setSame (s : St) (r l : Nat) {x : LState} (h : sameSO (getL s r l) x) :
    Reach c ld bp s (setL s r l x) :=
  .single (.setL _ _ _ _ (.inr (.inr h)) h.mono)

theorem R.mapCells (s : St) {g : Nat → Nat → LState → LState} (hg : ∀ r l x, sameSO x (g r l x)) :
    Reach c ld bp s (mapCells c g s) :=
  Reach.foldl _ _ (fun t r _ => Reach.foldl _ _ (fun u l _ => .setSame u r l (hg r l _)) t) s

theorem R.eachCell {α : Type} (s : St) (ls : List Nat) (as : List α) {p : α → Nat → LState → Out}
    (hp : ∀ a r x, (p a r x).All (sameSO x)) : Reach c ld bp s (eachCell c ls as p s) :=
  Reach.foldl _ _ (fun t r _ => Reach.foldl _ _ (fun u l _ => Reach.foldl _ _ (fun v a _ =>
    .same v r l (hp a r _)) u) t) s

theorem R.flushBucket (s : St) : Reach c ld bp s (flushBucket c s) := by
  rw [flushBucket_eq]
  exact iteInduction (fun _ => .refl _) fun hne =>
    (Reach.single (.issue _ _ _ (.flush fun e => hne (e ▸ rfl)))).tail (.flushMap _ s.bucket s.nIssued)

theorem R.putFac (l : Nat) (isA : Bool) (avg : V) (p : Pend) (s : St) : Reach c ld bp s (putFac c l isA avg p s) :=
  Reach.foldl _ _ (fun t r _ => .setSame t r l (by cases isA <;> exact .of_eq rfl)) s

theorem R.bcast (s : St) (l : Nat) (members : List Nat) (d : Desc) (f : Fld) (hi : IssueOK c s.bucket members d)
    (hf : (∀ r ∈ members, r ∈ c.asg.workers l) ∨ f = .grad) : Reach c ld bp s (bcast s l members d f) := by
  refine (Reach.single (.issue _ _ _ hi)).trans (Reach.foldl _ _ (fun t r hr => ?_) _)
  refine .single (.setL _ _ _ _ (hf.elim (fun h => .inl (h r hr)) fun e => .inr (.inr ?_)) (monoSO_set ..))
  subst e
  exact .of_eq rfl

theorem R.bcastF (s : St) (l src elems : Nat) (f : Fld) (hb : c.asg.bcastInv = true)
    (hsrc : src = c.asg.invA l ∨ src = c.asg.invG l) : Reach c ld bp s (bcastF c s l src elems f) :=
  iteInduction (fun _ => .refl _) fun h =>
    R.bcast s l _ _ f (.inv l src elems hb (by simpa using h) hsrc) (.inl fun _ => id)

/-! ### what the cell programs do to the signature

Most leave the second-order fields alone or read them (`rdVal` keeps presence); the inverse computations
and the receive buffers before the inverse broadcasts change the signature and only never drop
`qa`/`aInv`: they are run by the gradient workers of the layer. -/

theorem Cell.saveBatch_same (l isA r pass x) : (Cell.saveBatch l isA r pass x).All (sameSO x) := by
  unfold Cell.saveBatch
  split <;> split <;> exact .of_eq rfl

theorem Cell.updateFactor_same (l isA α x) : (Cell.updateFactor l isA α x).All (sameSO x) := by
  unfold Cell.updateFactor
  cases isA
  · cases x.gBatch <;> exact .of_eq rfl
  · cases x.aBatch <;> exact .of_eq rfl

theorem Cell.readFac_same (isA x) : (Cell.readFac isA x).All (sameSO x) :=
  iteInduction (fun _ => .of_eq rfl) fun _ => .of_eq rfl

theorem Cell.computeAInv_mono (c d x) : (Cell.computeAInv c d x).All (monoSO x) := by
  unfold Cell.computeAInv
  cases c.method <;>
    simp only [Out.All_ite_eq, Out.All_fail, Out.All_write, monoSO, Option.isSome_some, imp_self, implies_true, and_self,
      ite_self]

theorem Cell.computeGInv_mono (c d x) : (Cell.computeGInv c d x).All (monoSO x) := by
  unfold Cell.computeGInv
  cases c.method <;> simp only [Out.All_ite_eq, Out.All_fail, Out.All_write, monoSO, imp_self, and_self, ite_self]

theorem Cell.allocA_mono (c src r x) : (Cell.allocA c src r x).All (monoSO x) := by
  unfold Cell.allocA
  cases c.method <;>
    simp only [Out.All_ite_eq, Out.All_fail, Out.All_write, monoSO, rdVal_isSome, Option.isSome_some, imp_self,
      implies_true, and_self, ite_self]

theorem Cell.allocG_mono (c src r x) : (Cell.allocG c src r x).All (monoSO x) := by
  unfold Cell.allocG
  cases c.method <;> simp only [Out.All_ite_eq, Out.All_fail, Out.All_write, monoSO, imp_self, and_self, ite_self]

theorem Cell.precondGrad_same (c l steps d x) : (Cell.precondGrad c l steps d x).All (sameSO x) := by
  unfold Cell.precondGrad
  cases c.method <;>
    simp only [Out.All_ite_eq, Out.All_fail, Out.All_write, sameSO, rdVal_isSome, apply_ite Option.isSome, ite_self,
      and_self]

theorem Cell.allocGr_same (src r x) : (Cell.allocGr src r x).All (sameSO x) :=
  iteInduction (fun _ => trivial) fun _ =>
    iteInduction (motive := sameSO x) (fun _ => .of_eq rfl) fun _ => .of_eq rfl

theorem Cell.clipStep_same (x) : (Cell.clipStep x).All (sameSO x) :=
  iteInduction (fun _ => trivial) fun _ => .of_eq rfl

theorem Cell.rd_same (f x) : (Cell.rd f x).All (sameSO x) := by
  cases f <;> simp only [Cell.rd, Out.All_write, sameSO, LState.set, LState.get, rdVal_isSome, and_self]

theorem R.saveBatch (s : St) (r l : Nat) (isA : Bool) : Reach c ld bp s (saveBatch s r l isA) := by
  rw [saveBatch_eq]; exact .same s r l (Cell.saveBatch_same ..)

theorem R.updateFactor (s : St) (r l : Nat) (isA : Bool) (α : Rat) :
    Reach c ld bp s (updateFactor s r l isA α) := by
  rw [updateFactor_eq]; exact .same s r l (Cell.updateFactor_same ..)

theorem R.reduceTail (s : St) (l : Nat) (isA : Bool) (hl : l < c.layers.length) :
    Reach c ld bp s (reduceTail c s l isA) := by
  unfold Precond.reduceTail
  refine iteInduction (fun _ => .refl _) fun hw => ?_
  have hw : c.world ≠ 1 := by simpa using hw
  extract_lets elems avg s2 s3
  have h2 : Reach c ld bp s s2 := .misc rfl rfl rfl rfl rfl
  refine iteInduction (fun hb => ?_) fun hb => ?_
  · have h3 : Reach c ld bp s s3 := h2.trans (iteInduction (fun _ => R.flushBucket _) fun _ => .refl _)
    refine .trans ?_ (R.putFac ..)
    exact h3.tail (.addB _ _ hb hw rfl rfl rfl rfl)
  · exact (h2.tail (.issue _ _ _ (.red l isA (by simpa using hb) hw hl))).trans (R.putFac ..)

theorem R.reduceFactor (s : St) (l : Nat) (isA : Bool) (hl : l < c.layers.length) :
    Reach c ld bp s (reduceFactor c s l isA) := by
  rw [reduceFactor_eq]
  exact iteInduction (fun _ => .single (.fail ..)) fun _ =>
    (Reach.foldl _ _ (fun t r _ => .same t r l (Cell.readFac_same ..)) s).trans (R.reduceTail _ l isA hl)

theorem R.updateReduce (s : St) (l : Nat) (isA : Bool) (α : Rat) (hl : l < c.layers.length) :
    Reach c ld bp s (Precond.reduceFactor c (forRanks c s fun s r => Precond.updateFactor s r l isA α) l isA) :=
  (Reach.foldl _ _ (fun t r _ => R.updateFactor t r l isA α) s).trans (R.reduceFactor _ l isA hl)

theorem R.fwdStep (α : Rat) (s : St) (l : Nat) (hl : l < c.layers.length) : Reach c ld bp s (fwdStep c α s l) := by
  unfold Precond.fwdStep
  extract_lets s1 m s2
  have h2 : Reach c ld bp s s2 :=
    (Reach.foldl _ _ (fun t r _ => R.saveBatch t r l true) s).trans (.misc rfl rfl rfl rfl rfl)
  exact iteInduction (fun _ => h2.trans (R.updateReduce _ l true α hl)) fun _ => h2

theorem R.bwdStep (α : Rat) (s : St) (l : Nat) (hl : l < c.layers.length) : Reach c ld bp s (bwdStep c α s l) := by
  have h1 : Reach c ld bp s (forRanks c s fun s r => Precond.saveBatch s r l false) :=
    Reach.foldl _ _ (fun t r _ => R.saveBatch t r l false) s
  exact iteInduction (fun _ => h1.trans (R.updateReduce _ l false α hl)) fun _ => h1

theorem R.fwdBwd (s : St) (train : Bool) : Reach c ld bp s (fwdBwd c s train) := by
  rw [fwdBwd_eq]
  have hp (t : St) : Reach c ld bp t (incPass t) := .misc rfl rfl rfl rfl rfl
  refine iteInduction (fun _ => .refl _) fun _ => iteInduction (fun _ => hp s) fun _ => .trans ?_ (hp _)
  exact (Reach.foldl (Precond.fwdStep c _) _ (fun t l hl => R.fwdStep _ t l (mem_layerIdxs.mp hl)) s).trans
    (Reach.foldl (Precond.bwdStep c _) _ (fun t l hl => R.bwdStep _ t l (mem_revLayers.mp hl)) _)

def InvMem (c : Cfg) (ld : Bool) : Prop :=
  ∀ l, (c.asg.invA l ∈ c.asg.workers l ∨ ld = true) ∧ (c.asg.invG l ∈ c.asg.workers l ∨ ld = true)

theorem R.computeAInv (s : St) (r l : Nat) (d : Rat) (hw : r ∈ c.asg.workers l ∨ ld = true) :
    Reach c ld bp s (computeAInv c s r l d) := by
  rw [computeAInv_eq]; exact .worker s hw (Cell.computeAInv_mono ..)

theorem R.computeGInv (s : St) (r l : Nat) (d : Rat) (hw : r ∈ c.asg.workers l ∨ ld = true) :
    Reach c ld bp s (computeGInv c s r l d) := by
  rw [computeGInv_eq]; exact .worker s hw (Cell.computeGInv_mono ..)

theorem R.workerSteps (p : Nat → LState → Out) (hp : ∀ r x, (p r x).All (monoSO x)) (s : St) (l : Nat) :
    Reach c ld bp s ((c.asg.workers l).foldl (Cell.step p l) s) :=
  Reach.foldl _ _ (fun t r hr => .worker t (.inl hr) (hp r _)) s

theorem R.sendFs (s : St) (l src : Nat) (fs : List Fld) (hb : c.asg.bcastInv = true)
    (hsrc : src = c.asg.invA l ∨ src = c.asg.invG l) : Reach c ld bp s (sendFs c l src fs s) :=
  Reach.foldl _ _ (fun t f _ => R.bcastF t l src _ f hb hsrc) s

theorem R.broadcastAInv (s : St) (l : Nat) (hb : c.asg.bcastInv = true) :
    Reach c ld bp s (broadcastAInv c s l) := by
  rw [broadcastAInv_eq]
  exact (R.workerSteps _ (Cell.allocA_mono c _) s l).trans
    (R.sendFs _ l _ _ hb (.inl rfl))

theorem R.broadcastGInv (s : St) (l : Nat) (hb : c.asg.bcastInv = true) :
    Reach c ld bp s (broadcastGInv c s l) := by
  rw [broadcastGInv_eq]
  exact (R.workerSteps _ (Cell.allocG_mono c _) s l).trans
    (R.sendFs _ l _ _ hb (.inr rfl))

theorem R.invStep (hm : InvMem c ld) (d : Rat) (s : St) (l : Nat) : Reach c ld bp s (invStep c d s l) :=
  (((R.computeAInv s _ l d (hm l).1).trans (iteInduction (R.broadcastAInv _ l) fun _ => .refl _)).trans
    (R.computeGInv _ _ l d (hm l).2)).trans (iteInduction (R.broadcastGInv _ l) fun _ => .refl _)

theorem R.rowStep (l : Nat) (hb : c.asg.bcastGrad = true) (s : St) {r0 : Nat} (hr0 : r0 ∈ gradRows c) :
    Reach c ld bp s (rowStep c l s r0) :=
  iteInduction (fun _ => .refl _) fun h =>
    (Reach.foldl _ _ (fun t r _ => .same t r l (Cell.allocGr_same ..)) s).trans
      (R.bcast _ l _ _ .grad (.grad r0 l hb (by simpa using h) (by simpa using (List.mem_filter.mp hr0).2))
        (.inr rfl))

theorem R.gradStep (d : Rat) (s : St) (l : Nat) : Reach c ld bp s (gradStep c d s l) := by
  refine (Reach.foldl _ _ (fun t r _ => ?_) s).trans (iteInduction (fun hb => ?_) fun _ => .refl _)
  · rw [precondGrad_eq]; exact .same t r l (Cell.precondGrad_same ..)
  · rw [broadcastGrad_eq]; exact Reach.foldl _ _ (fun t _ h => R.rowStep l hb t h) _

theorem R.facFlush (b : Bool) (α : Rat) (s : St) : Reach c ld bp s (facFlush c b α s) := by
  refine (iteInduction (fun _ => Reach.foldl _ _ (fun t l hl => ?_) s) fun _ => .refl s).trans (R.flushBucket _)
  have hl := mem_revLayers.mp hl
  have h1 : Reach c ld bp t { t with mini := t.mini.set l 0 } := .misc rfl rfl rfl rfl rfl
  exact (h1.trans (R.updateReduce _ l true α hl)).trans (R.updateReduce _ l false α hl)

theorem R.invFlush (hm : InvMem c ld) (ius : Nat) (d : Rat) (s : St) : Reach c ld bp s (invFlush c ius d s) :=
  iteInduction (fun _ => (Reach.foldl _ _ (fun t l _ => R.invStep hm d t l) s).trans (R.flushBucket _)) fun _ => .refl s

/-- the step counter moves at the very end -/
theorem R.gradTail (d : Rat) (s : St) : Reach c ld true s (gradTail c d s) := by
  unfold Refine.gradTail
  extract_lets s4 s5 s6
  refine (.tail (?_ : Reach c ld true s s6) (.misc _ _ rfl rfl rfl rfl nofun))
  rw [show s6 = _ from clearGrads_eq c s5, show s5 = _ from clipRead_eq c s4]
  exact (((Reach.foldl _ _ (fun t l _ => R.gradStep d t l) s).trans (R.flushBucket _)).trans
    (R.eachCell _ _ _ fun _ _ => Cell.clipStep_same)).trans (R.mapCells _ fun _ _ _ => .of_eq rfl)

theorem R.stepAll (hm : InvMem c ld) (s : St) : Reach c ld true s (stepAll c s) :=
  ((R.facFlush _ _ s).trans (R.invFlush hm _ _ _)).trans (R.gradTail _ _)

theorem R.resetBatch (s : St) : Reach c ld bp s (resetBatch c s) := by
  rw [resetBatch_eq]; exact R.mapCells s fun _ _ _ => .of_eq rfl

theorem R.memUsage (s : St) : Reach c ld bp s (memUsage c s) := by
  rw [memUsage_eq]; exact (R.flushBucket s).trans (R.eachCell _ _ _ fun f _ => Cell.rd_same f)

theorem R.saveState (s : St) (inclF : Bool) : Reach c ld bp s (saveState c s inclF) := by
  rw [saveState_eq]; exact iteInduction (fun _ => .refl s) fun _ => R.eachCell _ _ _ fun f _ => Cell.rd_same f

theorem R.invAll (d : Rat) (t : St) (l : Nat) : Reach c true bp t (invAll c d t l) :=
  (Reach.foldl _ _ (fun u r _ => (R.computeAInv u r l d (.inr rfl)).trans (R.computeGInv _ r l d (.inr rfl))) t).trans
    (iteInduction (fun hb => (R.broadcastAInv _ l hb).trans (R.broadcastGInv _ l hb)) fun _ => .refl _)

theorem R.loadInto (cur snap : St) (inclF compInv : Bool) :
    Reach c true bp cur (loadInto c cur snap inclF compInv) := by
  rw [loadInto_eq]
  have hf : Reach c true bp cur (freshOf c cur snap) := .single (.reset _ _ rfl rfl rfl)
  have hl : Reach c true bp cur (loadFacs c snap (freshOf c cur snap)) := by
    rw [loadFacs_eq]; exact hf.trans (R.mapCells _ fun _ _ _ => .of_eq rfl)
  exact iteInduction (fun _ => hf) fun _ => iteInduction (fun _ => hl) fun _ =>
    hl.trans (Reach.foldl _ _ (fun t l _ => R.invAll _ t l) _)

theorem R.saveLoad (s : St) (inclF compInv : Bool) : Reach c true bp s (saveLoad c s inclF compInv) := by
  rw [PF.saveLoad_is_loadInto]; exact (R.saveState s inclF).trans (R.loadInto ..)

def isLoad : Op → Bool
  | .saveLoad _ _ => true
  | _ => false

theorem R.exec (hm : InvMem c ld) (s : St) (op : Op) (hl : isLoad op = true → ld = true)
    (hs : C03.isStep op = true → bp = true) : Reach c ld bp s (exec c s op) := by
  refine iteInduction (fun _ => .refl _) fun _ => ?_
  cases op with
  | fwdBwd t => exact R.fwdBwd s t
  | step => exact hs rfl ▸ R.stepAll hm s
  | resetBatch => exact R.resetBatch s
  | memUsage => exact R.memUsage s
  | save f => exact R.saveState s f
  | saveLoad f ci => cases hl rfl; exact R.saveLoad s f ci
  | setHyper hy => exact .misc rfl rfl rfl rfl rfl

end KV.HR
