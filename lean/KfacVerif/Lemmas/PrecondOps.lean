/-
The operations of M-Precond in normal form.

What one rank does to one of its cells is a function of that cell alone: it reads some getters, then
raises or writes the cell.  `Cell.Out` is that description, `Cell.run s r l p` executes it, `Cell.step p l`
is the body of a loop over ranks; every per-rank operation of the model is `Cell.run` of a *cell program*.
The operations over all ranks are folds of such steps around the few places where collectives are issued.
Invariants are proved once for `Cell.run` and the issuing places, and read off the pure programs.

Where the normal form of an operation is (definitions that exist only to state one stand directly above it):
* per rank: `saveBatch_eq`, `updateFactor_eq`, `computeAInv_eq`, `computeGInv_eq`, `precondGrad_eq`
  (programs `Cell.saveBatch` … `Cell.rd`);
* issuing places: `bcast` (one issue, then every member's field is set), `bcastF` (nothing in a group of one),
  `sendFs` (a list of fields); `broadcastAInv_eq`, `broadcastGInv_eq` (the receive-buffer programs `Cell.allocA`,
  `Cell.allocG`, then `sendFs` of `fldsA`/`fldsG`), `broadcastGrad_eq` (`rowStep` per receiver group),
  `reduceFactor_eq` (`readFacs`, `reduceTail`, `putFac`); `flushBucket_eq` is in PrecondBasic;
* `fwdBwd_eq` (`fwdStep`, `bwdStep`); `step()`: `stepAll_eq` in the model's words, `stepAll_phases` as
  `gradTail ∘ invFlush ∘ facFlush` over `facStep`, `invStep`, `gradStep` per layer;
* loops over all cells: `eachCell` (every rank, layers `ls`, a list of programs: `memUsage_eq`, `saveState_eq`,
  `clipRead_eq`) and `mapCells` (every cell rewritten by a pure map: `resetBatch_eq`, `clearGrads_eq`, `loadFacs_eq`);
* checkpoints: `saveLoad_is_loadInto`, `loadInto_eq` (`freshOf`, `loadFacs`, `invAll`).
Core Lean only.
-/
import KfacVerif.Lemmas.PrecondBasic

namespace KV.Cell
open KV KV.Precond
open KV.HR (rdVal rdSt)

/-- the getters read, in order, then the exception raised or the cell written.  `rs` only drives the script
    (`reads`): a program is handed the cell as it is BEFORE its reads (`step`), so the cell it writes has to
    contain `rdVal` of every field it read; the equations `X_eq` below are what checks that against the model -/
inductive Out where
  | fail (rs : List Fld) (w : String)
  | write (rs : List Fld) (x : LState)

def Out.rs : Out → List Fld
  | .fail rs _ => rs
  | .write rs _ => rs

def Out.All (P : LState → Prop) : Out → Prop
  | .fail _ _ => True
  | .write _ y => P y

def rdIf (b : Bool) (f : Fld) : List Fld := if b then [f] else []

def reads (s : St) (r : Nat) (x : LState) (fs : List Fld) : St := fs.foldl (fun t f => rdSt t r (x.get f)) s

def run (s : St) (r l : Nat) : Out → St
  | .fail rs w => fail (reads s r (getL s r l) rs) r w
  | .write rs x => setL (reads s r (getL s r l) rs) r l x

/-- the body of a loop over ranks -/
def step (p : Nat → LState → Out) (l : Nat) (s : St) (r : Nat) : St := run s r l (p r (getL s r l))

theorem reads_nil (s r x) : reads s r x [] = s := rfl
theorem reads_cons (s r x f fs) : reads s r x (f :: fs) = reads (rdSt s r (x.get f)) r x fs := rfl
theorem reads_rdIf (s r x b f fs) :
    reads s r x (rdIf b f ++ fs) = reads (if b then rdSt s r (x.get f) else s) r x fs := by
  cases b <;> rfl
theorem reads_rdIf' (s r x b f) : reads s r x (rdIf b f) = if b then rdSt s r (x.get f) else s := by
  cases b <;> rfl
theorem run_fail (s r l rs w) : run s r l (.fail rs w) = fail (reads s r (getL s r l) rs) r w := rfl
theorem run_write (s r l rs x) : run s r l (.write rs x) = setL (reads s r (getL s r l) rs) r l x := rfl

theorem reads_eq (s : St) (r : Nat) (x : LState) (fs : List Fld) :
    ∃ a, reads s r x fs = { s with script := a ++ s.script } := by
  induction fs generalizing s with
  | nil => exact ⟨[], rfl⟩
  | cons f t ih =>
    obtain ⟨a, ea⟩ := rdSt_eq s r (x.get f)
    obtain ⟨b, eb⟩ := ih (rdSt s r (x.get f))
    exact ⟨b ++ a, by rw [reads_cons, eb, ea, List.append_assoc]⟩

@[simp] theorem getL_reads (s r x fs r' l') : getL (reads s r x fs) r' l' = getL s r' l' := by
  obtain ⟨a, e⟩ := reads_eq s r x fs; rw [e]; rfl

theorem Out.All_ite_eq {P} (b : Prop) [Decidable b] (p q : Out) :
    (if b then p else q).All P = if b then p.All P else q.All P := by split <;> rfl
theorem Out.All_fail {P} (rs w) : (Out.fail rs w).All P = True := rfl
theorem Out.All_write {P} (rs y) : (Out.write rs y).All P = P y := rfl

theorem Out.All.imp {P Q : LState → Prop} (h : ∀ y, P y → Q y) : ∀ {o : Out}, o.All P → o.All Q
  | .fail _ _, _ => trivial
  | .write _ _, hp => h _ hp

/-- normalise `run s r l (if … then .fail … else .write …)` to the model's nested `if`s over
    `fail (rdSt …)` / `setL (rdSt …)` -/
macro "cell_nf" : tactic =>
  `(tactic| simp only [apply_ite (run _ _ _), run_fail, run_write, reads_cons, reads_nil, reads_rdIf, reads_rdIf',
      List.cons_append, List.append_assoc, LState.get])

/-! ### the per-rank operations as cell programs -/

/-- `save_layer_input` / `save_layer_grad_output` -/
def saveBatch (l : Nat) (isA : Bool) (r pass : Nat) (x : LState) : Out :=
  let leaf := V.cov l isA r pass
  .write [] <|
    if isA then
      match x.aBatch with
      | none => { x with aBatch := some leaf, aCount := 1 }
      | some b => { x with aBatch := some (.add b leaf), aCount := x.aCount + 1 }
    else
      match x.gBatch with
      | none => { x with gBatch := some leaf, gCount := 1 }
      | some b => { x with gBatch := some (.add b leaf), gCount := x.gCount + 1 }

/-- the factor slot after `update_a_factor` / `update_g_factor` folded in the batch `bnew` -/
def emaSlot (l : Nat) (isA : Bool) (alpha : Rat) (bnew : V) (f : Option Slot) : Slot :=
  let fv : V := match f with | some sl => sl.val | none => .ident l isA
  let nf : Slot := ⟨.ema alpha fv bnew, match f with | some sl => sl.pend | none => .ready⟩
  match nf.pend with | .queued _ => nf | _ => { nf with pend := .ready }

/-- `update_a_factor` / `update_g_factor`; nothing happens without a batch -/
def updateFactor (l : Nat) (isA : Bool) (alpha : Rat) (x : LState) : Out :=
  let (batch, count) := if isA then (x.aBatch, x.aCount) else (x.gBatch, x.gCount)
  match batch with
  | none => .write [] x
  | some b =>
    let bnew := if count > 1 then V.divN b count else b
    if isA then .write [.aFactor] { x with aBatch := none, aFactor := some (emaSlot l isA alpha bnew (rdVal x.aFactor)) }
    else .write [.gFactor] { x with gBatch := none, gFactor := some (emaSlot l isA alpha bnew (rdVal x.gFactor)) }


/-- the getter read at the head of `reduce_a_factor` / `reduce_g_factor` -/
def readFac (isA : Bool) (x : LState) : Out :=
  if isA then .write [.aFactor] { x with aFactor := rdVal x.aFactor }
  else .write [.gFactor] { x with gFactor := rdVal x.gFactor }

/-- `compute_a_inv` -/
def computeAInv (c : Cfg) (d : Rat) (x : LState) : Out :=
  if x.aFactor.isNone then .fail [] "A has not been computed" else
  let fv := (x.aFactor.map (·.val)).getD .zero
  .write [.aFactor] <|
    match c.method with
    | .eigen => { x with aFactor := rdVal x.aFactor, qa := some ⟨.eigQ fv, .ready⟩, da := some ⟨.eigD fv, .ready⟩ }
    | .inverse => { x with aFactor := rdVal x.aFactor, aInv := some ⟨.inv fv d, .ready⟩ }

/-- `compute_g_inv` -/
def computeGInv (c : Cfg) (d : Rat) (x : LState) : Out :=
  if x.gFactor.isNone then .fail [] "G has not been computed" else
  let fv := (x.gFactor.map (·.val)).getD .zero
  match c.method with
  | .eigen =>
    if x.da.isNone then .fail [.gFactor, .da] "assert self.da is not None" else
    if c.prediv then
      .write [.gFactor, .da]
        { x with gFactor := rdVal x.gFactor, qg := some ⟨.eigQ fv, .ready⟩,
                 dgda := some ⟨.outerInv (.eigD fv) ((x.da.map (·.val)).getD .garbage) d, .ready⟩,
                 dg := none, da := none }
    else
      .write [.gFactor, .da]
        { x with gFactor := rdVal x.gFactor, da := rdVal x.da, qg := some ⟨.eigQ fv, .ready⟩,
                 dg := some ⟨.eigD fv, .ready⟩ }
  | .inverse => .write [.gFactor] { x with gFactor := rdVal x.gFactor, gInv := some ⟨.inv fv d, .ready⟩ }

/-- `broadcast_a_inv`: a worker that lacks what is sent (eigen: `qa`, or `da` when not pre-dividing; both are
    then allocated) allocates it from the shape of its `a_factor`; the broadcast root must hold it -/
def allocA (c : Cfg) (src r : Nat) (x : LState) : Out :=
  match c.method with
  | .eigen =>
    let b := x.qa.isSome && !c.prediv
    let rs := .qa :: rdIf b .da
    if x.qa.isNone || (!c.prediv && x.da.isNone) then
      if r == src then .fail rs "broadcast A inv from src that has not computed it" else
      if x.aFactor.isNone then .fail (rs ++ [.aFactor]) "a_factor is None when allocating the receive buffer" else
      .write (rs ++ [.aFactor])
        { x with qa := some ⟨.garbage, .ready⟩, da := some ⟨.garbage, .ready⟩, aFactor := rdVal x.aFactor }
    else .write rs { x with qa := rdVal x.qa, da := if b then rdVal x.da else x.da }
  | .inverse =>
    if x.aInv.isNone then
      if r == src then .fail [.aInv] "broadcast A inv from src that has not computed it" else
      if x.aFactor.isNone then .fail [.aInv, .aFactor] "a_factor is None when allocating the receive buffer" else
      .write [.aInv, .aFactor] { x with aInv := some ⟨.garbage, .ready⟩, aFactor := rdVal x.aFactor }
    else .write [.aInv] { x with aInv := rdVal x.aInv }

/-- `broadcast_g_inv` (eigen, pre-dividing: `qg` and `dgda`, sized by both factors; otherwise `qg` and `dg`) -/
def allocG (c : Cfg) (src r : Nat) (x : LState) : Out :=
  match c.method with
  | .eigen =>
    let b1 := x.qg.isSome && !c.prediv
    let b2 := x.qg.isSome && c.prediv
    let rs := .qg :: rdIf b1 .dg ++ rdIf b2 .dgda
    if x.qg.isNone || (!c.prediv && x.dg.isNone) || (c.prediv && x.dgda.isNone) then
      if r == src then .fail rs "broadcast G inv from src that has not computed it" else
      if x.gFactor.isNone then .fail (rs ++ [.gFactor]) "g_factor is None when allocating the receive buffer" else
      if c.prediv then
        if x.aFactor.isNone then
          .fail (rs ++ [.gFactor, .aFactor]) "a_factor is None when allocating the receive buffer" else
        .write (rs ++ [.gFactor, .aFactor])
          { x with qg := some ⟨.garbage, .ready⟩, dg := if b1 then rdVal x.dg else x.dg,
                   dgda := some ⟨.garbage, .ready⟩, gFactor := rdVal x.gFactor, aFactor := rdVal x.aFactor }
      else .write (rs ++ [.gFactor])
          { x with qg := some ⟨.garbage, .ready⟩, dg := some ⟨.garbage, .ready⟩,
                   dgda := if b2 then rdVal x.dgda else x.dgda, gFactor := rdVal x.gFactor }
    else .write rs { x with qg := rdVal x.qg, dg := if b1 then rdVal x.dg else x.dg,
                            dgda := if b2 then rdVal x.dgda else x.dgda }
  | .inverse =>
    if x.gInv.isNone then
      if r == src then .fail [.gInv] "broadcast G inv from src that has not computed it" else
      if x.gFactor.isNone then .fail [.gInv, .gFactor] "g_factor is None when allocating the receive buffer" else
      .write [.gInv, .gFactor] { x with gInv := some ⟨.garbage, .ready⟩, gFactor := rdVal x.gFactor }
    else .write [.gInv] { x with gInv := rdVal x.gInv }

/-- `preconditioned_grad` for layer `l` in step `steps` -/
def precondGrad (c : Cfg) (l steps : Nat) (d : Rat) (x : LState) : Out :=
  let g := V.rawGrad l steps
  let v (o : Option Slot) := (o.map (·.val)).getD .garbage
  match c.method with
  | .eigen =>
    let rs := .qa :: .qg :: rdIf (!c.prediv) .da ++ rdIf (!c.prediv) .dg ++ rdIf c.prediv .dgda
    if x.qa.isNone || x.qg.isNone || (!c.prediv && (x.da.isNone || x.dg.isNone)) || (c.prediv && x.dgda.isNone) then
      .fail rs "eigendecompositions have not been computed" else
    .write rs
      { x with qa := rdVal x.qa, qg := rdVal x.qg, da := if c.prediv then x.da else rdVal x.da,
               dg := if c.prediv then x.dg else rdVal x.dg, dgda := if c.prediv then rdVal x.dgda else x.dgda,
               grad := some ⟨if c.prediv then V.pcEigPre (v x.qa) (v x.qg) (v x.dgda) g
                             else V.pcEig (v x.qa) (v x.da) (v x.qg) (v x.dg) d g, .ready⟩ }
  | .inverse =>
    if x.aInv.isNone || x.gInv.isNone then .fail [.aInv, .gInv] "A and G have not been inverted" else
    .write [.aInv, .gInv]
      { x with aInv := rdVal x.aInv, gInv := rdVal x.gInv, grad := some ⟨.pcInv (v x.aInv) (v x.gInv) g, .ready⟩ }

/-- the receive buffer before `broadcast_grad`; the root must have preconditioned -/
def allocGr (src r : Nat) (x : LState) : Out :=
  if x.grad.isNone && r == src then .fail [.grad] "broadcast gradient from src that has not preconditioned it" else
  .write [.grad] (if x.grad.isNone then { x with grad := some ⟨.garbage, .ready⟩ } else { x with grad := rdVal x.grad })

/-- the `grad` getter read by the clip scale -/
def clipStep (x : LState) : Out :=
  if x.grad.isNone then .fail [.grad] "layer gradient has not been preconditioned" else
  .write [.grad] { x with grad := rdVal x.grad }

/-- one getter read of `memory_usage()` / `state_dict()` -/
def rd (f : Fld) (x : LState) : Out := .write [f] (x.set f (rdVal (x.get f)))

theorem Out.All.ite {P} {b : Prop} [Decidable b] {p q : Out} (hp : b → p.All P) (hq : ¬ b → q.All P) :
    (if b then p else q).All P :=
  iteInduction hp hq

theorem emaSlot_val (l : Nat) (isA : Bool) (alpha : Rat) (bnew : V) (f : Option Slot) :
    (emaSlot l isA alpha bnew f).val = .ema alpha ((f.map (·.val)).getD (.ident l isA)) bnew := by
  rcases f with _ | ⟨v, _ | _ | _⟩ <;> rfl

end KV.Cell

namespace KV.BucketLink
open KV.Precond

def putFac (c : Cfg) (l : Nat) (isA : Bool) (avg : V) (p : Pend) (s : St) : St :=
  (worldRanks c).foldl (fun s r =>
    let x := getL s r l
    setL s r l (if isA then { x with aFactor := some ⟨avg, p⟩ } else { x with gFactor := some ⟨avg, p⟩ })) s

end KV.BucketLink

namespace KV.Precond
open KV.HR (rdVal rdSt isNone_ite_rdVal isNone_ite_rdVal')
open KV.BucketLink (putFac)
open KV.Cell (step)

theorem saveBatch_eq (s : St) (r l : Nat) (isA : Bool) :
    saveBatch s r l isA = Cell.run s r l (Cell.saveBatch l isA r s.pass (getL s r l)) := rfl

theorem updateFactor_eq (s : St) (r l : Nat) (isA : Bool) (alpha : Rat) :
    updateFactor s r l isA alpha = Cell.run s r l (Cell.updateFactor l isA alpha (getL s r l)) := by
  unfold updateFactor Cell.updateFactor
  cases isA
  · cases h : (getL s r l).gBatch
    · simp only [Bool.false_eq_true, if_false, h]; exact (setL_getL s r l).symm
    · simp only [Bool.false_eq_true, if_false, h, readSlot_eq, getL_rdSt]; rfl
  · cases h : (getL s r l).aBatch
    · simp only [if_true, h]; exact (setL_getL s r l).symm
    · simp only [if_true, h, readSlot_eq, getL_rdSt]; rfl

theorem computeAInv_eq (c : Cfg) (s : St) (r l : Nat) (d : Rat) :
    computeAInv c s r l d = Cell.run s r l (Cell.computeAInv c d (getL s r l)) := by
  unfold computeAInv Cell.computeAInv
  simp only [readSlot_eq, getL_rdSt, rdVal_val]
  cases c.method <;> cell_nf

theorem computeGInv_eq (c : Cfg) (s : St) (r l : Nat) (d : Rat) :
    computeGInv c s r l d = Cell.run s r l (Cell.computeGInv c d (getL s r l)) := by
  unfold computeGInv Cell.computeGInv
  simp only [readSlot_eq, getL_rdSt, rdVal_val, rdVal_isNone]
  cases c.method <;> cell_nf

theorem precondGrad_eq (c : Cfg) (s : St) (r l : Nat) (d : Rat) :
    precondGrad c s r l d = Cell.run s r l (Cell.precondGrad c l s.steps d (getL s r l)) := by
  unfold precondGrad Cell.precondGrad
  simp only [readSlot_eq, ite_pair, getL_rdSt, getL_ite_rdSt, getL_ite_rdSt', rdVal_isNone, isNone_ite_rdVal,
    isNone_ite_rdVal', rdVal_val, ite_rdVal_val, ite_rdVal_val']
  cases c.method
  · cases c.prediv <;> cell_nf <;> rfl
  · cell_nf

/-! ### the places where collectives are issued -/

def bcast (s : St) (l : Nat) (members : List Nat) (d : Desc) (f : Fld) : St :=
  let rootVal := (((getL s d.root l).get f).map (·.val)).getD .garbage
  members.foldl (fun t r => setL t r l ((getL t r l).set f (some ⟨rootVal, .issued s.nIssued⟩))) (issue s members d).1

/-- `bcastField` on a named field; a group of one does not communicate -/
def bcastF (c : Cfg) (s : St) (l src elems : Nat) (f : Fld) : St :=
  if (c.asg.workers l).length == 1 then s else
  bcast s l (c.asg.workers l) { kind := .broadcast, elems := elems, esize := c.ie, root := src } f

def elemsOf (c : Cfg) (l : Nat) : Fld → Nat
  | .qa => (c.layers.getD l ⟨0, 0⟩).aDim * (c.layers.getD l ⟨0, 0⟩).aDim
  | .da => (c.layers.getD l ⟨0, 0⟩).aDim
  | .aInv => triElems (c.layers.getD l ⟨0, 0⟩).aDim c.symAware
  | .qg => (c.layers.getD l ⟨0, 0⟩).gDim * (c.layers.getD l ⟨0, 0⟩).gDim
  | .dg => (c.layers.getD l ⟨0, 0⟩).gDim
  | .dgda => (c.layers.getD l ⟨0, 0⟩).gDim * (c.layers.getD l ⟨0, 0⟩).aDim
  | .gInv => triElems (c.layers.getD l ⟨0, 0⟩).gDim c.symAware
  | _ => 0

/-- what `broadcast_a_inv` / `broadcast_g_inv` send -/
def fldsA (m : Method) (p : Bool) : List Fld :=
  match m with
  | .eigen => .qa :: if p then [] else [.da]
  | .inverse => [.aInv]

def fldsG (m : Method) (p : Bool) : List Fld :=
  match m with
  | .eigen => [.qg, if p then .dgda else .dg]
  | .inverse => [.gInv]

def sendFs (c : Cfg) (l src : Nat) (fs : List Fld) (s : St) : St :=
  fs.foldl (fun s f => bcastF c s l src (elemsOf c l f) f) s

theorem broadcastAInv_eq (c : Cfg) (s : St) (l : Nat) :
    broadcastAInv c s l = sendFs c l (c.asg.invA l) (fldsA c.method c.prediv)
      ((c.asg.workers l).foldl (step (Cell.allocA c (c.asg.invA l)) l) s) := by
  unfold broadcastAInv step Cell.allocA
  simp only [readSlot_eq, ite_pair, getL_rdSt, getL_ite_rdSt, rdVal_isNone, rdVal_isSome, isNone_ite_rdVal]
  cases c.method <;> cell_nf
  · cases c.prediv <;> rfl
  · rfl

theorem broadcastGInv_eq (c : Cfg) (s : St) (l : Nat) :
    broadcastGInv c s l = sendFs c l (c.asg.invG l) (fldsG c.method c.prediv)
      ((c.asg.workers l).foldl (step (Cell.allocG c (c.asg.invG l)) l) s) := by
  unfold broadcastGInv step Cell.allocG
  simp only [readSlot_eq, ite_pair, getL_rdSt, getL_ite_rdSt, rdVal_isNone, rdVal_isSome, isNone_ite_rdVal]
  cases c.method <;> cell_nf
  · cases c.prediv <;> rfl
  · rfl

/-- the distinct receiver groups, each named by its first member -/
def gradRows (c : Cfg) : List Nat := (worldRanks c).filter fun r => (c.asg.recv r).head? == some r

/-- `broadcast_grad` of layer `l` inside the receiver group of `r0` -/
def rowStep (c : Cfg) (l : Nat) (s : St) (r0 : Nat) : St :=
  if (c.asg.recv r0).length == 1 then s else
  bcast ((c.asg.recv r0).foldl (step (Cell.allocGr (c.asg.src r0 l)) l) s) l (c.asg.recv r0)
    { kind := .broadcast, elems := (c.layers.getD l ⟨0, 0⟩).gDim * (c.layers.getD l ⟨0, 0⟩).aDim, esize := c.ge,
      root := c.asg.src r0 l } .grad

theorem broadcastGrad_eq (c : Cfg) (s : St) (l : Nat) :
    broadcastGrad c s l = (gradRows c).foldl (rowStep c l) s := by
  unfold broadcastGrad
  simp only [readSlot_eq, getL_rdSt, rdVal_isNone]
  unfold rowStep step Cell.allocGr
  cell_nf
  rfl

/-! ### `reduce_a_factor` / `reduce_g_factor` -/

def missingFac (c : Cfg) (s : St) (l : Nat) (isA : Bool) : List Nat :=
  (worldRanks c).filter fun r =>
    let x := getL s r l
    (if isA then x.aFactor else x.gFactor).isNone

def facVals (c : Cfg) (s : St) (l : Nat) (isA : Bool) : List V :=
  (worldRanks c).map fun r =>
    let x := getL s r l
    ((if isA then x.aFactor else x.gFactor).map (·.val)).getD .zero

def facDim (c : Cfg) (l : Nat) (isA : Bool) : Nat :=
  if isA then (c.layers.getD l ⟨0, 0⟩).aDim else (c.layers.getD l ⟨0, 0⟩).gDim

def readFacs (c : Cfg) (s : St) (l : Nat) (isA : Bool) : St := forRanks c s (step (fun _ => Cell.readFac isA) l)

def reduceTail (c : Cfg) (s1 : St) (l : Nat) (isA : Bool) : St :=
  if c.world == 1 then s1 else
  let elems := triElems (facDim c l isA) c.symAware
  let avg := V.ref s1.defs.length
  let s2 : St := { s1 with defs := s1.defs ++ [avgOf (facVals c s1 l isA)] }
  if c.bucketed then
    let s3 := if (s2.bucket.map (·.elems)).sum * c.fe + elems * c.fe > c.cap then flushBucket c s2 else s2
    putFac c l isA avg (.queued s3.nextReq)
      { s3 with bucket := s3.bucket ++ [⟨s3.nextReq, l, isA, elems⟩], nextReq := s3.nextReq + 1 }
  else
    putFac c l isA avg (.issued s2.nIssued)
      (issue s2 (worldRanks c) { kind := .allreduce, elems := elems, esize := c.fe, root := 0 }).1

theorem reduceFactor_eq (c : Cfg) (s : St) (l : Nat) (isA : Bool) :
    reduceFactor c s l isA =
      if !(missingFac c s l isA).isEmpty then
        fail s ((missingFac c s l isA).headD 0) "factor is None, cannot reduce" else
      reduceTail c (readFacs c s l isA) l isA := by
  -- only the body of the loop over the ranks is not the model's text
  refine congrArg (fun body => if !(missingFac c s l isA).isEmpty then _ else reduceTail c (forRanks c s body) l isA)
    (funext fun s => funext fun r => ?_)
  unfold step Cell.readFac
  simp only [readSlot_eq, getL_rdSt]
  cases isA <;> rfl

theorem putFac_eq_ranks (c : Cfg) (l : Nat) (isA : Bool) (avg : V) (p : Pend) (s : St) :
    ∃ rk, putFac c l isA avg p s = { s with ranks := rk } :=
  List.foldlRecOn (motive := fun t => ∃ rk, t = { s with ranks := rk }) _ _ ⟨_, rfl⟩
    fun _ ⟨_, e⟩ r _ => by subst e; exact ⟨_, rfl⟩

theorem putFac_script (c l isA avg p) (s : St) : (putFac c l isA avg p s).script = s.script := by
  obtain ⟨rk, e⟩ := putFac_eq_ranks c l isA avg p s
  rw [e]

/-! ### the hooks, `step()` -/

/-- forward pre-hook of layer `l` on every rank -/
def fwdStep (c : Cfg) (alpha : Rat) (s : St) (l : Nat) : St :=
  let s := forRanks c s fun s r => saveBatch s r l true
  let m := s.mini.getD l 0 + 1
  let s := { s with mini := s.mini.set l m }
  if c.hook && m % c.accum == 0 then
    let s := forRanks c s fun s r => updateFactor s r l true alpha
    reduceFactor c s l true
  else s

/-- backward hook of layer `l` on every rank -/
def bwdStep (c : Cfg) (alpha : Rat) (s : St) (l : Nat) : St :=
  let s := forRanks c s fun s r => saveBatch s r l false
  let m := s.mini.getD l 0
  if c.hook && m % c.accum == 0 then
    let s := forRanks c s fun s r => updateFactor s r l false alpha
    reduceFactor c s l false
  else s

def incPass (s : St) : St := { s with pass := s.pass + 1 }

theorem fwdBwd_eq (c : Cfg) (s : St) (train : Bool) :
    fwdBwd c s train =
      if !train then s else
      if s.steps % s.hyper.fus.val s.steps != 0 then incPass s else
      incPass ((revLayers c).foldl (bwdStep c (s.hyper.decay.val s.steps))
        ((layerIdxs c).foldl (fwdStep c (s.hyper.decay.val s.steps)) s)) := rfl

end KV.Precond

namespace KV.Refine
open KV.Precond

/-- the factor update of `step()` for one layer (no-hook mode) -/
def facStep (c : Cfg) (alpha : Rat) (s : St) (l : Nat) : St :=
  let s := { s with mini := s.mini.set l 0 }
  let s := forRanks c s fun s r => updateFactor s r l true alpha
  let s := reduceFactor c s l true
  let s := forRanks c s fun s r => updateFactor s r l false alpha
  reduceFactor c s l false

/-- the inverse phase of `step()` for one layer -/
def invStep (c : Cfg) (damping : Rat) (s : St) (l : Nat) : St :=
  let s := computeAInv c s (c.asg.invA l) l damping
  let s := if c.asg.bcastInv then broadcastAInv c s l else s
  let s := computeGInv c s (c.asg.invG l) l damping
  if c.asg.bcastInv then broadcastGInv c s l else s

/-- the gradient phase of `step()` for one layer -/
def gradStep (c : Cfg) (d : Rat) (s : St) (l : Nat) : St :=
  let s := (c.asg.workers l).foldl (fun s r => precondGrad c s r l d) s
  if c.asg.bcastGrad then broadcastGrad c s l else s

def clipStep (r : Nat) (s : St) (l : Nat) : St :=
  let x := getL s r l
  let (s, gr) := readSlot s r x.grad
  if gr.isNone then fail s r "layer gradient has not been preconditioned" else
  setL s r l { getL s r l with grad := gr }

def clipRead (c : Cfg) (s : St) : St :=
  forRanks c s fun s r => (revLayers c).foldl (clipStep r) s

def outsOf (c : Cfg) (s : St) (kl : Option Rat) (lr : Rat) : List (List V) :=
  (worldRanks c).map fun r =>
    let vs := (layerIdxs c).map fun l => (((getL s r l).grad).map (·.val)).getD .garbage
    match kl with
    | none => vs
    | some k =>
      let sum := (revLayers c).foldl (fun acc l =>
        let v := vs.getD l .garbage
        let t := V.inner v (.rawGrad l s.steps)
        match acc with | none => some t | some a => some (V.add a t)) (none : Option V)
      let n := V.nu k lr (sum.getD .zero)
      vs.map fun v => V.scale n v

def clearGrads (c : Cfg) (s : St) : St :=
  forRanks c s fun s r => (layerIdxs c).foldl (fun s l => setL s r l { getL s r l with grad := none }) s

theorem stepAll_eq (c : Cfg) (s : St) :
    stepAll c s =
      let fus := s.hyper.fus.val s.steps
      let ius := s.hyper.ius.val s.steps
      let damping := s.hyper.damping.val s.steps
      let alpha := s.hyper.decay.val s.steps
      let s1 := if !c.hook && s.steps % fus == 0 then (revLayers c).foldl (facStep c alpha) s else s
      let s2 := flushBucket c s1
      let s3 := if s2.steps % ius == 0 then flushBucket c ((revLayers c).foldl (invStep c damping) s2) else s2
      let s4 := flushBucket c ((revLayers c).foldl (gradStep c damping) s3)
      let s5 := clipRead c s4
      let s6 := clearGrads c s5
      { s6 with steps := s6.steps + 1, mini := List.replicate c.layers.length 0, outGrads := outsOf c s5 (s4.hyper.kl.val s4.steps) (s4.hyper.lr.val s4.steps) } := rfl

def facFlush (c : Cfg) (b1 : Bool) (α : Rat) (s : St) : St :=
  flushBucket c (if b1 then (revLayers c).foldl (facStep c α) s else s)

def invFlush (c : Cfg) (ius : Nat) (d : Rat) (s2 : St) : St :=
  if s2.steps % ius == 0 then flushBucket c ((revLayers c).foldl (invStep c d) s2) else s2

def gradTail (c : Cfg) (d : Rat) (s3 : St) : St :=
  let s4 := flushBucket c ((revLayers c).foldl (gradStep c d) s3)
  let s5 := clipRead c s4
  let s6 := clearGrads c s5
  { s6 with steps := s6.steps + 1, mini := List.replicate c.layers.length 0,
            outGrads := outsOf c s5 (s4.hyper.kl.val s4.steps) (s4.hyper.lr.val s4.steps) }

theorem stepAll_phases (c : Cfg) (s : St) :
    stepAll c s = gradTail c (s.hyper.damping.val s.steps) (invFlush c (s.hyper.ius.val s.steps) (s.hyper.damping.val s.steps)
      (facFlush c (!c.hook && s.steps % s.hyper.fus.val s.steps == 0) (s.hyper.decay.val s.steps) s)) := rfl

theorem clipStep_eq (r : Nat) (s : St) (l : Nat) : clipStep r s l = Cell.step (fun _ => Cell.clipStep) l s r := by
  unfold clipStep Cell.step Cell.clipStep
  simp only [readSlot_eq, getL_rdSt, rdVal_isNone]
  cell_nf

def strip (o : Option Slot) : Option Slot := o.map fun x => { x with pend := .ready }

/-- `layer.load_state_dict` on every rank: the factors of `s`, as plain tensors -/
def loadFacs (c : Cfg) (s fresh : St) : St :=
  forRanks c fresh fun t r => (layerIdxs c).foldl (fun t l =>
    setL t r l { getL t r l with aFactor := strip (getL s r l).aFactor, gFactor := strip (getL s r l).gFactor }) t

end KV.Refine

namespace KV.Precond
open KV.Refine (strip loadFacs)
open KV.Cell (step)

/-! ### loops over all cells, checkpoints -/

/-- the loop of `memory_usage()`, `state_dict()` and of the clip scale -/
def eachCell {α : Type} (c : Cfg) (ls : List Nat) (as : List α) (p : α → Nat → LState → Cell.Out) (s : St) : St :=
  forRanks c s fun s r => ls.foldl (fun s l => as.foldl (fun s a => step (p a) l s r) s) s

/-- the getters `memory_usage()` reads, in order -/
def memReads (c : Cfg) : List Fld :=
  .aFactor :: .gFactor :: match c.method with
    | .eigen => [.qa, .da, .qg, .dg, .dgda]
    | .inverse => [.aInv, .gInv]

/-- one getter read in the model's words -/
theorem rd_eq (s : St) (r l : Nat) (f : Fld) :
    step (fun _ => Cell.rd f) l s r =
      setL (readSlot s r ((getL s r l).get f)).1 r l
        ((getL (readSlot s r ((getL s r l).get f)).1 r l).set f (readSlot s r ((getL s r l).get f)).2) := by
  rw [readSlot_eq, getL_rdSt]; rfl

theorem memUsage_eq (c : Cfg) (s : St) :
    memUsage c s = eachCell c (layerIdxs c) (memReads c) (fun f _ => Cell.rd f) (flushBucket c s) := by
  unfold memUsage memReads eachCell
  cases c.method <;> simp only [List.foldl_cons, List.foldl_nil, rd_eq] <;> rfl

theorem saveState_eq (c : Cfg) (s : St) (inclF : Bool) :
    saveState c s inclF =
      if !inclF then s else eachCell c (layerIdxs c) [.aFactor, .gFactor] (fun f _ => Cell.rd f) s := by
  unfold saveState eachCell
  simp only [List.foldl_cons, List.foldl_nil, rd_eq]
  rfl

theorem clipRead_eq (c : Cfg) (s : St) :
    Refine.clipRead c s = eachCell c (revLayers c) [()] (fun _ _ => Cell.clipStep) s :=
  congrArg (forRanks c s) (funext fun s => funext fun r => congrArg (fun f => (revLayers c).foldl f s)
    (funext fun s => funext fun l => Refine.clipStep_eq r s l))

/-- the freshly constructed preconditioner a state is loaded into: the hyper-parameters and step count
    of the saved state, the bookkeeping of collectives of the running one -/
def freshOf (c : Cfg) (cur snap : St) : St :=
  { St.init c snap.hyper with
    steps := snap.steps, pass := cur.pass, nIssued := cur.nIssued, nextReq := cur.nextReq, script := cur.script,
    defs := cur.defs }

/-- `compute_inverses=True` for one layer: every rank decomposes, then the broadcasts of `step()` -/
def invAll (c : Cfg) (d : Rat) (t : St) (l : Nat) : St :=
  let t := forRanks c t fun t r => computeGInv c (computeAInv c t r l d) r l d
  if c.asg.bcastInv then broadcastGInv c (broadcastAInv c t l) l else t

theorem loadInto_eq (c : Cfg) (cur snap : St) (inclF compInv : Bool) :
    loadInto c cur snap inclF compInv =
      if !inclF then freshOf c cur snap else
      if !compInv then loadFacs c snap (freshOf c cur snap) else
      (layerIdxs c).foldl
        (invAll c ((loadFacs c snap (freshOf c cur snap)).hyper.damping.val (loadFacs c snap (freshOf c cur snap)).steps))
        (loadFacs c snap (freshOf c cur snap)) := rfl

theorem getL_freshOf (c : Cfg) (cur snap : St) (r l : Nat) : getL (freshOf c cur snap) r l = {} :=
  getD_replicate_empty ..

theorem Shape.freshOf (c : Cfg) (cur snap : St) : Shape c (freshOf c cur snap) :=
  (Shape.init c snap.hyper).of_ranks rfl

def mapCells (c : Cfg) (g : Nat → Nat → LState → LState) (s : St) : St :=
  forRanks c s fun t r => (layerIdxs c).foldl (fun t l => setL t r l (g r l (getL t r l))) t

theorem mapCells_eq (c : Cfg) (g : Nat → Nat → LState → LState) (s : St) :
    ∃ rk, mapCells c g s = { s with ranks := rk } :=
  List.foldlRecOn (motive := fun t => ∃ rk, t = { s with ranks := rk }) _ _ ⟨_, rfl⟩ fun _ ht r _ =>
    List.foldlRecOn (motive := fun t => ∃ rk, t = { s with ranks := rk }) _ _ ht
      fun _ ⟨_, e⟩ l _ => by subst e; exact ⟨_, rfl⟩

/-- `hg` spares the argument that no index occurs twice -/
theorem getL_mapCells {c : Cfg} (g : Nat → Nat → LState → LState) (hg : ∀ r l x, g r l (g r l x) = g r l x)
    {s : St} (hs : Shape c s) {r l : Nat} (hr : r < c.world) (hl : l < c.layers.length) :
    getL (mapCells c g s) r l = g r l (getL s r l) := by
  let I (t : St) : Prop := InR t r l ∧ g r l (getL t r l) = g r l (getL s r l)
  let P (t : St) : Prop := getL t r l = g r l (getL s r l)
  have hI : ∀ t r' l', I t → I (setL t r' l' (g r' l' (getL t r' l'))) := fun t r' l' h => by
    refine ⟨(InR_setL ..).mpr h.1, ?_⟩
    rcases getL_setL_cases t r' l' (g r' l' (getL t r' l')) r l with ⟨e, rfl, rfl⟩ | e <;> rw [e]
    · rw [hg]; exact h.2
    · exact h.2
  have hP : ∀ t r' l', P t → P (setL t r' l' (g r' l' (getL t r' l'))) := fun t r' l' h => by
    show getL _ r l = _
    rcases getL_setL_cases t r' l' (g r' l' (getL t r' l')) r l with ⟨e, rfl, rfl⟩ | e <;> rw [e]
    · rw [h, hg]
    · exact h
  exact foldl_estab I P _ r _ (mem_worldRanks.mpr hr) s ⟨hs.inR hr hl, rfl⟩
    (fun t r' _ h => List.foldlRecOn _ _ h fun t h l' _ => hI t r' l' h)
    (fun t r' _ _ h => List.foldlRecOn _ _ h fun t h l' _ => hP t r' l' h)
    fun t h => foldl_estab I P _ l _ (mem_layerIdxs.mpr hl) t h (fun t l' _ => hI t r l') (fun t l' _ _ => hP t r l')
      fun t h => (getL_setL ..).trans ((if_pos ⟨rfl, rfl, h.1⟩).trans h.2)

theorem resetBatch_eq (c : Cfg) (s : St) :
    resetBatch c s = mapCells c (fun _ _ x => { x with aBatch := none, aCount := 0, gBatch := none, gCount := 0 }) s :=
  rfl

theorem clearGrads_eq (c : Cfg) (s : St) :
    Refine.clearGrads c s = mapCells c (fun _ _ x => { x with grad := none }) s := rfl

theorem loadFacs_eq (c : Cfg) (s u : St) :
    loadFacs c s u = mapCells c (fun r l x =>
      { x with aFactor := strip (getL s r l).aFactor, gFactor := strip (getL s r l).gFactor }) u := rfl

theorem loadFacs_eq_ranks (c : Cfg) (s u : St) : ∃ rk, loadFacs c s u = { u with ranks := rk } :=
  loadFacs_eq c s u ▸ mapCells_eq ..

theorem getL_loadFacs {c : Cfg} (s : St) {u : St} (hu : Shape c u) {r l : Nat} (hr : r < c.world)
    (hl : l < c.layers.length) :
    getL (loadFacs c s u) r l =
      { getL u r l with aFactor := strip (getL s r l).aFactor, gFactor := strip (getL s r l).gFactor } :=
  loadFacs_eq c s u ▸ getL_mapCells _ (by intros; rfl) hu hr hl

theorem strip_val (o : Option Slot) : (strip o).map (·.val) = o.map (·.val) := by
  cases o <;> rfl

theorem strip_isSome (o : Option Slot) : (strip o).isSome = o.isSome := by
  cases o <;> rfl

theorem run_cons (c : Cfg) (s : St) (op : Op) (ops : List Op) : run c s (op :: ops) = run c (exec c s op) ops := rfl

theorem run_append (c : Cfg) (s : St) (a b : List Op) : run c s (a ++ b) = run c (run c s a) b :=
  List.foldl_append

end KV.Precond

namespace KV.PF
open KV.Precond

theorem saveLoad_is_loadInto (c : Cfg) (s : St) (f ci : Bool) :
    Precond.saveLoad c s f ci = Precond.loadInto c (Precond.saveState c s f) (Precond.saveState c s f) f ci :=
  rfl

end KV.PF

namespace KV.C03
open KV.Precond

def isStep : Op → Bool | .step => true | _ => false
def isTrainPass : Op → Bool | .fwdBwd true => true | _ => false

end KV.C03
