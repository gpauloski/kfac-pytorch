/-
M-Precond's open bucket is M-Comm's bucket state machine: the helper lemmas of the link theorems
`KV.C08.flush_sim` / `KV.C08.reduce_sim`.  Getter reads and cell writes are `Quiet` (no issue, same
bucket), so of a bucketed `reduceFactor` only the flush on overflow and the appended request are
seen, which is what `allreduceBucketed` does to the one-bucket state `absBucket`.  Imports Lemmas/Bucket.lean
for its normal form of an accepted request (`arB_accept`, `addItem`) and `pending_flush`.
-/
import KfacVerif.Lemmas.Bucket
import KfacVerif.Lemmas.PrecondOps

namespace KV.C08
open KV KV.Precond

/-- M-Precond's open bucket (world group only: KAISA's `factor_group` is always the world) as an
    M-Comm communicator state -/
def absBucket (c : Cfg) (s : St) : Comm.CState :=
  { cap := c.cap,
    buckets := [(worldRanks c, some { items := s.bucket.map fun b =>
      ({ tid := b.req, elems := b.elems, esize := c.fe, dtype := 0 } : Comm.Item) })] }

/-- (members, element count) of the collectives a piece of script / a list of M-Comm events stands for -/
def issuesOf : List GAct → List (List Nat × Nat)
  | [] => []
  | .issue m d :: t => (m, d.elems) :: issuesOf t
  | _ :: t => issuesOf t

def eventsOf : List Comm.Event → List (List Nat × Nat)
  | [] => []
  | .allreduce g _ e :: t => (g, e) :: eventsOf t
  | .broadcast g _ e _ :: t => (g, e) :: eventsOf t

/-- the script acts appended by an operation -/
def newActs (before after : St) : List GAct := after.acts.drop before.acts.length

end KV.C08

namespace KV.BucketLink
open KV KV.Precond
open KV.C08 (issuesOf eventsOf absBucket newActs)

def isIssue : GAct → Bool
  | .issue _ _ => true
  | _ => false

def absItems (fe : Nat) (b : List BItem) : List Comm.Item :=
  b.map fun b => ({ tid := b.req, elems := b.elems, esize := fe, dtype := 0 } : Comm.Item)

theorem absBucket_eq (c : Cfg) (s : St) :
    absBucket c s = { cap := c.cap, buckets := [(worldRanks c, some { items := absItems c.fe s.bucket })] } := rfl

theorem newActs_of_script {s s' : St} {added : List GAct} (h : s'.script = added ++ s.script) :
    newActs s s' = added.reverse := by
  unfold newActs St.acts
  rw [h, List.reverse_append]
  exact List.drop_left

theorem issuesOf_append (a b : List GAct) : issuesOf (a ++ b) = issuesOf a ++ issuesOf b := by
  induction a with
  | nil => rfl
  | cons x t ih => cases x <;> simp only [List.cons_append, issuesOf, ih]

theorem issuesOf_quiet (l : List GAct) (h : ∀ a ∈ l, isIssue a = false) : issuesOf l = [] := by
  induction l with
  | nil => rfl
  | cons x t ih =>
    have ht := ih fun a ha => h a (List.mem_cons_of_mem _ ha)
    cases x with
    | issue m d => exact absurd (h _ (List.mem_cons_self ..)) Bool.noConfusion
    | wait r i => exact ht
    | stall r q => exact ht

/-- `s'` differs from `s` (as far as the bucket machine is concerned) by non-issue acts only -/
structure Quiet (s s' : St) : Prop where
  bucket : s'.bucket = s.bucket
  nextReq : s'.nextReq = s.nextReq
  grow : ∃ added, s'.script = added ++ s.script ∧ ∀ a ∈ added, isIssue a = false

theorem Quiet.refl (s : St) : Quiet s s := ⟨rfl, rfl, [], rfl, by simp⟩

theorem Quiet.trans {a b c : St} (h1 : Quiet a b) (h2 : Quiet b c) : Quiet a c := by
  obtain ⟨x, hx, hxq⟩ := h1.grow
  obtain ⟨y, hy, hyq⟩ := h2.grow
  refine ⟨h2.bucket.trans h1.bucket, h2.nextReq.trans h1.nextReq, y ++ x, ?_, ?_⟩
  · rw [hy, hx, List.append_assoc]
  · intro a ha
    rcases List.mem_append.1 ha with h | h
    · exact hyq a h
    · exact hxq a h

theorem Quiet.foldl {α} (f : St → α → St) (hf : ∀ s a, Quiet s (f s a)) (xs : List α) (s : St) :
    Quiet s (xs.foldl f s) :=
  List.foldlRecOn xs f (Quiet.refl s) fun t ht a _ => ht.trans (hf t a)

theorem Quiet.of_same {s s' : St} (hb : s'.bucket = s.bucket) (hn : s'.nextReq = s.nextReq)
    (hs : s'.script = s.script) : Quiet s s' := ⟨hb, hn, [], by simp [hs], by simp⟩

theorem Quiet.issuesOf_newActs {s s1 s2 : St} {a : List GAct} (h : Quiet s s1) (e : s2.script = a ++ s1.script) :
    issuesOf (newActs s s2) = issuesOf a.reverse := by
  obtain ⟨added, hadd, haq⟩ := h.grow
  rw [newActs_of_script (added := a ++ added) (by rw [e, hadd, List.append_assoc]), List.reverse_append,
    issuesOf_append, issuesOf_quiet _ fun x hx => haq x (List.mem_reverse.1 hx), List.nil_append]

theorem quiet_rdSt (s : St) (r : Nat) (sl : Option Slot) : Quiet s (HR.rdSt s r sl) := by
  rcases sl with _ | ⟨v, _ | id | q⟩
  · exact Quiet.refl s
  · exact Quiet.refl s
  · exact ⟨rfl, rfl, [.wait r id], rfl, fun a ha => by rw [List.mem_singleton.mp ha]; rfl⟩
  · exact ⟨rfl, rfl, [.stall r q], rfl, fun a ha => by rw [List.mem_singleton.mp ha]; rfl⟩

theorem quiet_run (s : St) (r l : Nat) (p : Cell.Out) : Quiet s (Cell.run s r l p) := by
  have h (fs) : Quiet s (Cell.reads s r (getL s r l) fs) := Quiet.foldl _ (fun t f => quiet_rdSt t r _) fs s
  cases p with
  | fail rs w => exact (h rs).trans (.of_same (fail_bucket ..) (fail_nextReq ..) (fail_script ..))
  | write rs x => exact (h rs).trans (.of_same rfl rfl rfl)

theorem quiet_readFacs (c : Cfg) (s : St) (l : Nat) (isA : Bool) : Quiet s (readFacs c s l isA) :=
  Quiet.foldl _ (fun s r => quiet_run s r l _) _ s

theorem quiet_putFac (c l isA avg p) (s : St) : Quiet s (putFac c l isA avg p s) := by
  obtain ⟨rk, e⟩ := putFac_eq_ranks c l isA avg p s
  rw [e]; exact .of_same rfl rfl rfl

theorem sum_size (fe : Nat) (b : List BItem) :
    ((absItems fe b).map fun it => it.elems * it.esize).sum = (b.map (·.elems)).sum * fe := by
  induction b with
  | nil => simp [absItems]
  | cons x t ih =>
    simp only [absItems, List.map_cons, List.sum_cons] at ih ⊢
    rw [ih, Nat.add_mul]

theorem sum_elems (fe : Nat) (b : List BItem) :
    ((absItems fe b).map (·.elems)).sum = (b.map (·.elems)).sum := by
  simp [absItems, Function.comp_def]

theorem dtype_absItems (fe : Nat) (b : List BItem) :
    Comm.Bucket.dtype? { items := absItems fe b } = none ∨
    Comm.Bucket.dtype? { items := absItems fe b } = some 0 := by
  cases b <;> simp [absItems, Comm.Bucket.dtype?]

theorem commElems_sq (n : Nat) (sym : Bool) : Comm.commElems [n, n] sym = triElems n sym := by
  cases sym <;> simp [Comm.commElems, Comm.numel, triElems]

theorem checkShape_sq (n : Nat) (sym : Bool) : Comm.checkShape [n, n] sym = .ok () := by
  cases sym <;> simp [Comm.checkShape]

theorem events_emit (c : Cfg) (b : List BItem) :
    eventsOf (Comm.emit (worldRanks c) { items := absItems c.fe b }) = issuesOf (flushActs c b).reverse := by
  unfold Comm.emit flushActs
  cases b with
  | nil => rfl
  | cons x t =>
    have := sum_elems c.fe (x :: t)
    simp [absItems, eventsOf, issuesOf] at this ⊢
    exact this

/-- on the abstraction of M-Precond's bucket only the capacity test can fire: all its items have dtype 0 -/
theorem flushNow_abs (c : Cfg) (b : List BItem) (it : Comm.Item) (hd : it.dtype = 0) :
    C08.flushNow c.cap { items := absItems c.fe b } it =
      decide ((b.map (·.elems)).sum * c.fe + it.elems * it.esize > c.cap) := by
  unfold C08.flushNow
  rw [Comm.Bucket.size, sum_size]
  rcases dtype_absItems c.fe b with h | h <;> simp [h, hd]

theorem arB_link (c : Cfg) (b : List BItem) (hw : c.world ≠ 1) (tid n : Nat) :
    Comm.allreduceBucketed { cap := c.cap, buckets := [(worldRanks c, some { items := absItems c.fe b })] }
        (worldRanks c) tid [n, n] c.fe 0 c.symAware =
      if (b.map (·.elems)).sum * c.fe + triElems n c.symAware * c.fe > c.cap then
        ({ cap := c.cap, buckets := [(worldRanks c, some { items := [⟨tid, triElems n c.symAware, c.fe, 0⟩] })] },
         Comm.emit (worldRanks c) { items := absItems c.fe b }, .future)
      else
        ({ cap := c.cap, buckets := [(worldRanks c,
            some { items := absItems c.fe b ++ [⟨tid, triElems n c.symAware, c.fe, 0⟩] })] }, [], .future) := by
  rw [C08.arB_accept _ _ _ _ _ _ _ (by simpa [worldRanks] using hw) (by unfold C08.shapeOk; rw [checkShape_sq])]
  unfold C08.stepB C08.addItem
  rw [C08.curB_cons_self, C08.mkItem, commElems_sq, flushNow_abs c b ⟨tid, _, c.fe, 0⟩ rfl]
  simp only [decide_eq_true_eq, Comm.setB, beq_self_eq_true, if_true]
  split <;> rfl

theorem flush_link (c : Cfg) (s : St) :
    issuesOf (newActs s (flushBucket c s)) = eventsOf (Comm.flush (absBucket c s)).2 ∧
    (flushBucket c s).bucket = [] ∧ Comm.pending (Comm.flush (absBucket c s)).1 = [] := by
  refine ⟨?_, flushBucket_bucket c s, ?_⟩
  · rw [newActs_of_script (flushBucket_script c s)]
    simp only [Comm.flush, absBucket_eq, List.flatMap_cons, List.flatMap_nil, List.append_nil]
    exact (events_emit c s.bucket).symm
  · exact C08.pending_flush _

theorem reduceTail_bucketed (c : Cfg) (s : St) (l : Nat) (isA : Bool) (hb : c.bucketed = true) (hw : c.world ≠ 1) :
    (reduceTail c s l isA).script =
      (if (s.bucket.map (·.elems)).sum * c.fe + triElems (facDim c l isA) c.symAware * c.fe > c.cap
        then flushActs c s.bucket else []) ++ s.script ∧
    (reduceTail c s l isA).bucket =
      (if (s.bucket.map (·.elems)).sum * c.fe + triElems (facDim c l isA) c.symAware * c.fe > c.cap
        then [] else s.bucket) ++ [⟨s.nextReq, l, isA, triElems (facDim c l isA) c.symAware⟩] := by
  unfold reduceTail
  rw [if_neg (by simpa using hw), if_pos hb]
  simp only [putFac_script, (quiet_putFac ..).bucket]
  split
  · exact ⟨flushBucket_script c _, by rw [flushBucket_bucket, flushBucket_nextReq]⟩
  · exact ⟨rfl, rfl⟩

theorem reduce_link (c : Cfg) (s : St) (l : Nat) (isA : Bool) (hb : c.bucketed = true) (hw : c.world ≠ 1)
    (hne : (reduceFactor c s l isA).err = none) :
    issuesOf (newActs s (reduceFactor c s l isA)) =
      eventsOf (Comm.allreduceBucketed (absBucket c s) (worldRanks c) s.nextReq
        [facDim c l isA, facDim c l isA] c.fe 0 c.symAware).2.1 ∧
    absBucket c (reduceFactor c s l isA) =
      (Comm.allreduceBucketed (absBucket c s) (worldRanks c) s.nextReq
        [facDim c l isA, facDim c l isA] c.fe 0 c.symAware).1 ∧
    (Comm.allreduceBucketed (absBucket c s) (worldRanks c) s.nextReq
        [facDim c l isA, facDim c l isA] c.fe 0 c.symAware).2.2 = .future := by
  rw [reduceFactor_eq] at hne ⊢
  split at hne
  · exact absurd hne (fail_err _ _ _)
  rename_i hm
  rw [if_neg hm]
  have hq := quiet_readFacs c s l isA
  obtain ⟨h1, h2⟩ := reduceTail_bucketed c (readFacs c s l isA) l isA hb hw
  rw [hq.bucket] at h1
  rw [hq.bucket, hq.nextReq] at h2
  rw [absBucket_eq, absBucket_eq, arB_link c s.bucket hw, hq.issuesOf_newActs h1, h2]
  split
  · exact ⟨(events_emit c s.bucket).symm, rfl, rfl⟩
  · exact ⟨rfl, by simp [absItems], rfl⟩

end KV.BucketLink
