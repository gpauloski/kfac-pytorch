/-
C16: the module walk (`walk`/`walkChildren`, memoised on object identity) meets a local specification
`WalkOK` that composes along the walk (`WalkOK.seq`); the memo set is closed under "child of" except at
the open ancestors (`Closed`), which gives completeness; and what `eligible` tests.
-/
import KfacVerif.Model.Misc

namespace KV.C16
open KV KV.Reg

/- all module instances reachable from `t` through non-`None` children (with repetitions) -/
mutual
def nodes : MTree → List MTree
  | .node i c cn ps ch => .node i c cn ps ch :: nodesCh ch
def nodesCh : List (String × Option MTree) → List MTree
  | [] => []
  | (_, none) :: t => nodesCh t
  | (_, some m) :: t => nodes m ++ nodesCh t
end

/-- object identity is consistent: two occurrences of the same `id` are the same module -/
def IdsConsistent (t : MTree) : Prop :=
  ∀ a ∈ nodes t, ∀ b ∈ nodes t, a.id = b.id → a = b

theorem self_mem_nodes (t : MTree) : t ∈ nodes t := by
  cases t; simp [nodes]

theorem nodes_eq (t : MTree) : nodes t = t :: nodesCh t.children := by
  cases t; simp [nodes, MTree.children]

theorem forall_children_cons {P : String → MTree → Prop} {k : String} {o : Option MTree}
    {t : List (String × Option MTree)} :
    (∀ n c, (n, some c) ∈ (k, o) :: t → P n c) ↔ (∀ c, o = some c → P k c) ∧ ∀ n c, (n, some c) ∈ t → P n c := by
  constructor
  · exact fun h => ⟨fun c e => h k c (e ▸ List.mem_cons_self), fun n c hm => h n c (List.mem_cons_of_mem _ hm)⟩
  · rintro ⟨h1, h2⟩ n c hm
    rcases List.mem_cons.1 hm with e | hm
    · cases e; exact h1 c rfl
    · exact h2 n c hm

theorem nodes_child_subset {ch : List (String × Option MTree)} {n : String} {c : MTree}
    (h : (n, some c) ∈ ch) : ∀ x ∈ nodes c, x ∈ nodesCh ch := by
  induction ch with
  | nil => simp at h
  | cons hd tl ih =>
    obtain ⟨n', o⟩ := hd
    intro x hx
    rcases List.mem_cons.1 h with h' | h'
    · injection h' with h1 h2
      subst h2
      simp [nodesCh, hx]
    · cases o with
      | none => simpa [nodesCh] using ih h' x hx
      | some m => simp [nodesCh, ih h' x hx]

/-- what a (sub)walk `r` started with memo `seen` over the node list `ns` guarantees -/
structure WalkOK (seen : List Nat) (r : List Nat × List Visit) (ns : List MTree) : Prop where
  mem : ∀ x, x ∈ r.1 ↔ x ∈ seen ∨ x ∈ r.2.map (·.id)
  nodup : (r.2.map (·.id)).Nodup
  fresh : ∀ x ∈ r.2.map (·.id), x ∉ seen
  faithful : ∀ v ∈ r.2, ∃ m ∈ ns, m.id = v.id ∧ m.cls = v.cls ∧ m.clsName = v.clsName ∧
      m.params = v.params ∧ m.isLeaf = v.leaf

theorem WalkOK.skip {seen : List Nat} {ns : List MTree} : WalkOK seen (seen, []) ns :=
  ⟨by simp, by simp, by simp, by simp⟩

theorem WalkOK.mono {seen : List Nat} {r : List Nat × List Visit} {ns ns' : List MTree}
    (h : WalkOK seen r ns) (hs : ∀ m ∈ ns, m ∈ ns') : WalkOK seen r ns' :=
  ⟨h.mem, h.nodup, h.fresh, fun v hv => by
    obtain ⟨m, hm, rest⟩ := h.faithful v hv
    exact ⟨m, hs m hm, rest⟩⟩

theorem WalkOK.seq {seen : List Nat} {r1 r2 : List Nat × List Visit} {ns1 ns2 : List MTree}
    (h1 : WalkOK seen r1 ns1) (h2 : WalkOK r1.1 r2 ns2) :
    WalkOK seen (r2.1, r1.2 ++ r2.2) (ns1 ++ ns2) := by
  refine ⟨fun x => ?_, ?_, ?_, ?_⟩
  · rw [List.map_append, List.mem_append, h2.mem x, h1.mem x, or_assoc]
  · rw [List.map_append]
    -- an id of the second walk is not in its memo, which holds the ids of the first
    exact List.nodup_append.2 ⟨h1.nodup, h2.nodup, fun a ha b hb e => h2.fresh b hb ((h1.mem b).2 (.inr (e ▸ ha)))⟩
  · rw [List.map_append, List.forall_mem_append]
    exact ⟨h1.fresh, fun x hx hs => h2.fresh x hx ((h1.mem x).2 (.inl hs))⟩
  · rw [List.forall_mem_append]
    exact ⟨(h1.mono fun _ => List.mem_append_left _).faithful, (h2.mono fun _ => List.mem_append_right _).faithful⟩

/-- visiting a fresh node and then walking on with it memoised is a sequence of two walks -/
theorem WalkOK.visit {seen : List Nat} {i : Nat} {r : List Nat × List Visit} {ns : List MTree}
    {v : Visit} {m : MTree} (hi : i ∉ seen) (h : WalkOK (i :: seen) r ns) (hv : v.id = i)
    (hm : m.id = v.id ∧ m.cls = v.cls ∧ m.clsName = v.clsName ∧ m.params = v.params ∧
      m.isLeaf = v.leaf) :
    WalkOK seen (r.1, v :: r.2) (m :: ns) :=
  WalkOK.seq (r1 := (i :: seen, [v])) (ns1 := [m])
    ⟨by simp [hv, or_comm], by simp, by simpa [hv] using hi, by simpa using hm⟩ h

theorem walk_node (pre : String) (seen : List Nat) (i c : Nat) (cn : String) (ps : List Bool)
    (ch : List (String × Option MTree)) :
    walk pre seen (.node i c cn ps ch) =
      if seen.contains i then (seen, [])
      else ((walkChildren pre (i :: seen) ch).1,
            { name := pre, id := i, cls := c, clsName := cn, params := ps,
              leaf := ch.all fun x => x.2.isNone } :: (walkChildren pre (i :: seen) ch).2) := by
  rw [walk]

theorem walkChildren_nil (pre : String) (seen : List Nat) :
    walkChildren pre seen [] = (seen, []) := by
  rw [walkChildren]

theorem walkChildren_none (pre : String) (seen : List Nat) (n : String)
    (t : List (String × Option MTree)) :
    walkChildren pre seen ((n, none) :: t) = walkChildren pre seen t := by
  rw [walkChildren]

theorem walkChildren_some (pre : String) (seen : List Nat) (n : String) (m : MTree)
    (t : List (String × Option MTree)) :
    walkChildren pre seen ((n, some m) :: t) =
      ((walkChildren pre (walk (qual pre n) seen m).1 t).1,
       (walk (qual pre n) seen m).2 ++ (walkChildren pre (walk (qual pre n) seen m).1 t).2) := by
  rw [walkChildren]

mutual
theorem walk_ok (pre : String) (seen : List Nat) :
    (t : MTree) → WalkOK seen (walk pre seen t) (nodes t)
  | .node i c cn ps ch => by
    rw [walk_node, nodes]
    by_cases h : seen.contains i = true
    · rw [if_pos h]; exact WalkOK.skip
    · rw [if_neg h]
      have hi : i ∉ seen := by simpa using h
      exact WalkOK.visit hi (walkCh_ok pre (i :: seen) ch) rfl
        ⟨rfl, rfl, rfl, rfl, rfl⟩
theorem walkCh_ok (pre : String) (seen : List Nat) :
    (ch : List (String × Option MTree)) → WalkOK seen (walkChildren pre seen ch) (nodesCh ch)
  | [] => by rw [walkChildren_nil]; exact WalkOK.skip
  | (n, none) :: t => by
    rw [walkChildren_none, nodesCh]; exact walkCh_ok pre seen t
  | (n, some m) :: t => by
    rw [walkChildren_some, nodesCh]
    exact WalkOK.seq (walk_ok (qual pre n) seen m) (walkCh_ok pre _ t)
end

theorem walk_mono (pre : String) (seen : List Nat) (t : MTree) :
    ∀ x ∈ seen, x ∈ (walk pre seen t).1 :=
  fun x hx => ((walk_ok pre seen t).mem x).2 (Or.inl hx)

theorem walkCh_mono (pre : String) (seen : List Nat) (ch : List (String × Option MTree)) :
    ∀ x ∈ seen, x ∈ (walkChildren pre seen ch).1 :=
  fun x hx => ((walkCh_ok pre seen ch).mem x).2 (Or.inl hx)

def Closed (T : MTree) (S A : List Nat) : Prop :=
  ∀ m ∈ nodes T, m.id ∈ S → m.id ∉ A → ∀ n c, (n, some c) ∈ m.children → c.id ∈ S

theorem Closed.enter {T : MTree} {S A : List Nat} (hc : Closed T S A) (i : Nat) :
    Closed T (i :: S) (i :: A) := by
  intro m hm hs ha n c hnc
  have hne : m.id ≠ i := fun e => ha (by simp [e])
  have hs' : m.id ∈ S := (List.mem_cons.1 hs).resolve_left hne
  exact List.mem_cons_of_mem _ (hc m hm hs' (fun e => ha (List.mem_cons_of_mem _ e)) n c hnc)

/-- any other occurrence of `t.id` is the same module (`hT`), with the same children -/
theorem Closed.leave {T t : MTree} {S A : List Nat} (hT : IdsConsistent T) (ht : t ∈ nodes T)
    (h1 : Closed T S (t.id :: A)) (h2 : ∀ n c, (n, some c) ∈ t.children → c.id ∈ S) : Closed T S A := by
  intro m hm hs ha n c hnc
  by_cases e : m.id = t.id
  · rw [hT m hm t ht e] at hnc
    exact h2 n c hnc
  · exact h1 m hm hs (by simp [e, ha]) n c hnc

mutual
theorem walk_closed (T : MTree) (hT : IdsConsistent T) (pre : String) (seen A : List Nat) :
    (t : MTree) → (∀ m ∈ nodes t, m ∈ nodes T) → Closed T seen A →
      Closed T (walk pre seen t).1 A ∧ t.id ∈ (walk pre seen t).1
  | .node i c cn ps ch => by
    intro ht hc
    rw [walk_node]
    by_cases h : seen.contains i = true
    · rw [if_pos h]
      exact ⟨hc, by simpa [MTree.id] using h⟩
    · rw [if_neg h]
      obtain ⟨h1, h2⟩ := walkCh_closed T hT pre (i :: seen) (i :: A) ch
        (fun m hm => ht m (by simp [nodes, hm])) (hc.enter i)
      exact ⟨Closed.leave hT (ht _ (self_mem_nodes _)) h1 h2, walkCh_mono pre (i :: seen) ch i (by simp)⟩
theorem walkCh_closed (T : MTree) (hT : IdsConsistent T) (pre : String) (seen A : List Nat) :
    (ch : List (String × Option MTree)) → (∀ m ∈ nodesCh ch, m ∈ nodes T) → Closed T seen A →
      Closed T (walkChildren pre seen ch).1 A ∧
        ∀ n c, (n, some c) ∈ ch → c.id ∈ (walkChildren pre seen ch).1
  | [] => by
    intro _ hc
    rw [walkChildren_nil]
    exact ⟨hc, by simp⟩
  | (n, none) :: t => by
    intro hch hc
    rw [walkChildren_none, forall_children_cons]
    obtain ⟨h1, h2⟩ := walkCh_closed T hT pre seen A t (by simpa [nodesCh] using hch) hc
    exact ⟨h1, nofun, h2⟩
  | (n, some m) :: t => by
    intro hch hc
    rw [walkChildren_some, forall_children_cons]
    obtain ⟨h1, h2⟩ := walk_closed T hT (qual pre n) seen A m
      (fun x hx => hch x (by simp [nodesCh, hx])) hc
    obtain ⟨h3, h4⟩ := walkCh_closed T hT pre (walk (qual pre n) seen m).1 A t
      (fun x hx => hch x (by simp [nodesCh, hx])) h1
    -- `m` was seen by its own walk, and the walk of the later children forgets nothing
    exact ⟨h3, fun c e => Option.some.inj e ▸ walkCh_mono pre _ t _ h2, h4⟩
end

mutual
theorem nodes_ind (P : MTree → Prop)
    (hstep : ∀ m, P m → ∀ n c, (n, some c) ∈ m.children → P c) :
    (t : MTree) → P t → ∀ m ∈ nodes t, P m
  | .node i c cn ps ch => by
    intro ht m hm
    rw [nodes] at hm
    rcases List.mem_cons.1 hm with e | e
    · exact e ▸ ht
    · exact nodesCh_ind P hstep ch (fun n c' h => hstep _ ht n c' h) m e
theorem nodesCh_ind (P : MTree → Prop)
    (hstep : ∀ m, P m → ∀ n c, (n, some c) ∈ m.children → P c) :
    (ch : List (String × Option MTree)) → (∀ n c, (n, some c) ∈ ch → P c) →
      ∀ m ∈ nodesCh ch, P m
  | [] => by intro _ m hm; simp [nodesCh] at hm
  | (n, none) :: t => by
    intro h m hm
    rw [nodesCh] at hm
    exact nodesCh_ind P hstep t (forall_children_cons.1 h).2 m hm
  | (n, some x) :: t => by
    intro h m hm
    rw [nodesCh] at hm
    obtain ⟨hx, ht⟩ := forall_children_cons.1 h
    exact (List.mem_append.1 hm).elim (nodes_ind P hstep x (hx x rfl) m) (nodesCh_ind P hstep t ht m)
end

/-- `eligible` is a conjunction of five tests; both variants at once (`neox` selects the class test
    and which spelling of the class name is looked up) -/
theorem eligible_iff (tbl : MatchTbl) (neox : Bool) (v : Visit) (bn bc : List Bool)
    (hn : assocGet? v.name tbl = some bn)
    (hc : assocGet? (if neox then lower v.clsName else v.clsName) tbl = some bc) :
    eligible tbl neox v = true ↔
      v.leaf = true ∧
      (if neox then lower v.clsName = "columnparallellinear" ∨ lower v.clsName = "rowparallellinear"
        else v.cls = 1 ∨ v.cls = 2) ∧
      (∀ b ∈ v.params, b = true) ∧ (∀ b ∈ bn, b = false) ∧ (∀ b ∈ bc, b = false) := by
  have hany : ∀ l : List Bool, (l.any id == false) = true ↔ ∀ b ∈ l, b = false := fun l => by simp
  -- `eligible` makes the five tests in another order than the statement lists them
  have reorder : ∀ {A B C D E : Prop}, (((A ∧ B) ∧ C) ∧ D) ∧ E ↔ A ∧ E ∧ D ∧ B ∧ C :=
    ⟨fun ⟨⟨⟨⟨a, b⟩, c⟩, d⟩, e⟩ => ⟨a, e, d, b, c⟩, fun ⟨a, e, d, b, c⟩ => ⟨⟨⟨⟨a, b⟩, c⟩, d⟩, e⟩⟩
  cases neox
  all_goals
    simp only [Bool.false_eq_true, if_false, if_true] at hc
    simp only [eligible, anyMatch, hn, hc, Option.map_some, Option.getD_some, Bool.and_eq_true, hany,
      List.all_eq_true, id, Bool.false_eq_true, if_false, if_true, Bool.or_eq_true, beq_iff_eq]
    exact reorder

end KV.C16
