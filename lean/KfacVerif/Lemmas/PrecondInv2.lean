/-
Invariants of the M-Precond state machine, part 2: every cell program writes a cell that satisfies
`LOK` if the cell it was given does; hence every operation keeps `Good` (any history), and so do the
phases of `step()` (`facStep`, `invStep`, `gradStep`, `invFlush`, `gradTail`).  Part 3 puts `step()` together
from them, following its factor phase through the bucket.  Core Lean only.
-/
import KfacVerif.Lemmas.PrecondInv1

namespace KV.PI
open KV KV.Precond
open KV.Sched2 (Events)

/-- the facts about the assignment that the script check needs (`KV.C03.CfgOK` minus `accum_pos`) -/
structure AsgOK (c : Cfg) : Prop where
  workers_lt : ∀ l r, r ∈ c.asg.workers l → r < c.world
  invA_mem : ∀ l, c.asg.invA l ∈ c.asg.workers l
  invG_mem : ∀ l, c.asg.invG l ∈ c.asg.workers l
  recv_lt : ∀ r r', r' ∈ c.asg.recv r → r' < c.world
  src_recv : ∀ r l, r < c.world → c.asg.src r l ∈ c.asg.recv r

theorem AsgOK.world_pos {c} (ha : AsgOK c) : 0 < c.world :=
  Nat.lt_of_le_of_lt (Nat.zero_le _) (ha.workers_lt 0 _ (ha.invA_mem 0))

def GoodE (st : Bool) (c : Cfg) (s : St) : Prop := ∃ μ, Good st c μ s

section
variable {st : Bool} {ev : Events} {r : Nat} {x : LState}

theorem Cell.saveBatch_lok {l isA r' pass} (hx : LOK st ev r x) : (Cell.saveBatch l isA r' pass x).All (LOK st ev r) := by
  unfold Cell.saveBatch
  split <;> split <;> exact hx.batch

theorem SlotOK.ema {l isA α b o} (h : SlotOK st ev r o) : SlotOK st ev r (some (Cell.emaSlot l isA α b o)) := by
  match o, h with
  | some ⟨_, .issued _⟩, _ => trivial
  | some ⟨_, .queued _⟩, h => exact h
  | some ⟨_, .ready⟩, _ => trivial
  | .none, _ => trivial

theorem Cell.updateFactor_lok {l isA α} (hx : LOK st ev r x) : (Cell.updateFactor l isA α x).All (LOK st ev r) := by
  unfold Cell.updateFactor
  cases isA
  · cases x.gBatch
    · exact hx
    · exact { hx with gFactor := hx.gFactor.rdVal.ema }
  · cases x.aBatch
    · exact hx
    · exact { hx with aFactor := hx.aFactor.rdVal.ema }

theorem Cell.readFac_lok {isA} (hx : LOK st ev r x) : (Cell.readFac isA x).All (LOK st ev r) :=
  iteInduction (fun _ => { hx with aFactor := hx.aFactor.rdVal }) fun _ => { hx with gFactor := hx.gFactor.rdVal }

theorem Cell.computeAInv_lok {c d} (hx : LOK st ev r x) : (Cell.computeAInv c d x).All (LOK st ev r) := by
  unfold Cell.computeAInv
  refine iteInduction (fun _ => trivial) fun _ => ?_
  cases c.method
  · exact { hx with aFactor := hx.aFactor.rdVal, qa := .ready, da := .ready }
  · exact { hx with aFactor := hx.aFactor.rdVal, aInv := .ready }

theorem Cell.computeGInv_lok {c d} (hx : LOK st ev r x) : (Cell.computeGInv c d x).All (LOK st ev r) := by
  unfold Cell.computeGInv
  refine iteInduction (fun _ => trivial) fun _ => ?_
  cases c.method
  · exact iteInduction (fun _ => trivial) fun _ => iteInduction
      (fun _ => { hx with gFactor := hx.gFactor.rdVal, qg := .ready, dgda := .ready, dg := .none, da := .none })
      fun _ => { hx with gFactor := hx.gFactor.rdVal, da := hx.da.rdVal, qg := .ready, dg := .ready }
  · exact { hx with gFactor := hx.gFactor.rdVal, gInv := .ready }

theorem Cell.allocA_lok {c src r'} (hx : LOK st ev r x) : (Cell.allocA c src r' x).All (LOK st ev r) := by
  unfold Cell.allocA
  cases c.method
  · exact iteInduction
      (fun _ => iteInduction (fun _ => trivial) fun _ => iteInduction (fun _ => trivial) fun _ =>
        { hx with qa := .ready, da := .ready, aFactor := hx.aFactor.rdVal })
      fun _ => { hx with qa := hx.qa.rdVal, da := hx.da.rdIf }
  · exact iteInduction
      (fun _ => iteInduction (fun _ => trivial) fun _ => iteInduction (fun _ => trivial) fun _ =>
        { hx with aInv := .ready, aFactor := hx.aFactor.rdVal })
      fun _ => { hx with aInv := hx.aInv.rdVal }

theorem Cell.allocG_lok {c src r'} (hx : LOK st ev r x) : (Cell.allocG c src r' x).All (LOK st ev r) := by
  unfold Cell.allocG
  cases c.method
  · exact iteInduction
      (fun _ => iteInduction (fun _ => trivial) fun _ => iteInduction (fun _ => trivial) fun _ => iteInduction
        (fun _ => iteInduction (fun _ => trivial) fun _ =>
          { hx with qg := .ready, dg := hx.dg.rdIf, dgda := .ready, gFactor := hx.gFactor.rdVal,
                    aFactor := hx.aFactor.rdVal })
        fun _ => { hx with qg := .ready, dg := .ready, dgda := hx.dgda.rdIf, gFactor := hx.gFactor.rdVal })
      fun _ => { hx with qg := hx.qg.rdVal, dg := hx.dg.rdIf, dgda := hx.dgda.rdIf }
  · exact iteInduction
      (fun _ => iteInduction (fun _ => trivial) fun _ => iteInduction (fun _ => trivial) fun _ =>
        { hx with gInv := .ready, gFactor := hx.gFactor.rdVal })
      fun _ => { hx with gInv := hx.gInv.rdVal }

theorem Cell.precondGrad_lok {c l steps d} (hx : LOK st ev r x) : (Cell.precondGrad c l steps d x).All (LOK st ev r) := by
  unfold Cell.precondGrad
  cases c.method
  · exact iteInduction (fun _ => trivial) fun _ =>
      { hx with qa := hx.qa.rdVal, qg := hx.qg.rdVal, da := hx.da.rdUnless, dg := hx.dg.rdUnless,
                dgda := hx.dgda.rdIf, grad := .ready }
  · exact iteInduction (fun _ => trivial) fun _ =>
      { hx with aInv := hx.aInv.rdVal, gInv := hx.gInv.rdVal, grad := .ready }

theorem Cell.allocGr_lok {src r'} (hx : LOK st ev r x) : (Cell.allocGr src r' x).All (LOK st ev r) :=
  iteInduction (fun _ => trivial) fun _ =>
    iteInduction (motive := LOK st ev r) (fun _ => { hx with grad := .ready }) fun _ => { hx with grad := hx.grad.rdVal }

theorem Cell.clipStep_lok (hx : LOK st ev r x) : (Cell.clipStep x).All (LOK st ev r) :=
  iteInduction (fun _ => trivial) fun _ => { hx with grad := hx.grad.rdVal }

theorem Cell.rd_lok {f} (hx : LOK st ev r x) : (Cell.rd f x).All (LOK st ev r) :=
  hx.set (hx.get f).rdVal f

end

theorem Good.updateFactor {st c s} (h : Good st c μ s) (r l : Nat) (isA : Bool) (α : Rat) :
    Good st c μ (updateFactor s r l isA α) := by
  rw [updateFactor_eq]; exact h.run (Cell.updateFactor_lok (h.lok r l))

theorem Good.forUpdate {st c s} (h : Good st c μ s) (l : Nat) (isA : Bool) (α : Rat) :
    Good st c μ (forRanks c s fun s r => Precond.updateFactor s r l isA α) :=
  List.foldlRecOn _ _ h fun _ hs r _ => hs.updateFactor r l isA α

theorem Good.forSave {st c s} (h : Good st c μ s) (l : Nat) (isA : Bool) :
    Good st c μ (forRanks c s fun s r => Precond.saveBatch s r l isA) :=
  List.foldlRecOn _ _ h fun _ hs r _ => hs.run (Cell.saveBatch_lok (hs.lok r l))

theorem Good.reduceTail {c s} (hw : 0 < c.world) (h : Good false c μ s) (l : Nat) (isA : Bool) :
    Good false c μ (reduceTail c s l isA) := by
  unfold Precond.reduceTail
  refine iteInduction (fun _ => h) fun hw1 => ?_
  have hw2 : 2 ≤ c.world := by
    have : c.world ≠ 1 := by simpa using hw1
    omega
  have h2 : Good false c μ { s with defs := s.defs ++ [avgOf (facVals c s l isA)] } := h.congr rfl rfl rfl rfl h.mini
  refine iteInduction (fun _ => ?_) fun _ => ?_
  · exact ((Good.addBucket (iteInduction (motive := Good false c μ) (fun _ => h2.flushBucket) fun _ => h2)
      hw2 _ _).here.putFac fun _ _ => .queued).1
  · exact ((h2.issuedWorld hw2 _ _).putFac fun r hr => h2.nIss ▸ .newest (mem_worldRanks.mpr hr)).1

theorem Good.reduceFactor {c s} (hw : 0 < c.world) (h : Good false c μ s) (l : Nat) (isA : Bool) :
    Good false c μ (reduceFactor c s l isA) := by
  rw [reduceFactor_eq]
  exact iteInduction (fun _ => (h.failE rfl _ _).1) fun _ =>
    (h.steps (worldRanks c) Cell.readFac_lok).reduceTail hw l isA

theorem Good.fwdStep {c μ s} (hw : 0 < c.world) (h : Good false c μ s) (α : Rat) (l : Nat) :
    Good false c (μ.set l (μ.getD l 0 + 1)) (fwdStep c α s l) := by
  unfold Precond.fwdStep
  extract_lets s1 m s2
  have h1 : Good false c μ s1 := h.forSave l true
  have h2 : Good false c (μ.set l (μ.getD l 0 + 1)) s2 :=
    h1.setMini (by show s1.mini.set l (s1.mini.getD l 0 + 1) = _; rw [h1.mini])
  exact iteInduction (fun _ => (h2.forUpdate l true α).reduceFactor hw l true) fun _ => h2

theorem Good.bwdStep {c μ s} (hw : 0 < c.world) (h : Good false c μ s) (α : Rat) (l : Nat) :
    Good false c μ (bwdStep c α s l) := by
  unfold Precond.bwdStep
  have h1 := h.forSave l false
  exact iteInduction (fun _ => (h1.forUpdate l false α).reduceFactor hw l false) fun _ => h1

theorem Good.fwdBwd {c μ s} (hw : 0 < c.world) (h : Good false c μ s) (train : Bool) :
    GoodE false c (Precond.fwdBwd c s train) := by
  rw [fwdBwd_eq]
  refine iteInduction (fun _ => ⟨_, h⟩) fun _ => iteInduction (fun _ => ⟨_, h.setPass _⟩) fun _ => ?_
  obtain ⟨_, h1⟩ := List.foldlRecOn (motive := GoodE false c) (layerIdxs c) (Precond.fwdStep c (s.hyper.decay.val s.steps))
    ⟨_, h⟩ fun _ ⟨_, hs⟩ l _ => ⟨_, hs.fwdStep hw _ l⟩
  exact ⟨_, (List.foldlRecOn (revLayers c) (Precond.bwdStep c (s.hyper.decay.val s.steps)) h1
    fun _ hs l _ => hs.bwdStep hw _ l).setPass _⟩

theorem Good.facStep {c s} (hw : 0 < c.world) (h : Good false c μ s) (α : Rat) (l : Nat) :
    Good false c (μ.set l 0) (Refine.facStep c α s l) :=
  ((((h.setMini (by rw [h.mini])).forUpdate l true α).reduceFactor hw l true).forUpdate l false α).reduceFactor hw l false

theorem Good.computeAInv {st c s} (h : Good st c μ s) (r l : Nat) (d : Rat) :
    Good st c μ (Precond.computeAInv c s r l d) := by
  rw [computeAInv_eq]; exact h.run (Cell.computeAInv_lok (h.lok r l))

theorem Good.computeGInv {st c s} (h : Good st c μ s) (r l : Nat) (d : Rat) :
    Good st c μ (Precond.computeGInv c s r l d) := by
  rw [computeGInv_eq]; exact h.run (Cell.computeGInv_lok (h.lok r l))

theorem Good.bcastF {st c s l src elems f} (ha : AsgOK c) (h : Good st c μ s) (hsrc : src ∈ c.asg.workers l) :
    Good st c μ (bcastF c s l src elems f) :=
  iteInduction (fun _ => h) fun hlen => h.bcast (ha.workers_lt l) (two_le_length_of_mem hsrc hlen) hsrc l f

theorem Good.sendFs {st c s l src} (ha : AsgOK c) (h : Good st c μ s) (hsrc : src ∈ c.asg.workers l) (fs : List Fld) :
    Good st c μ (sendFs c l src fs s) :=
  List.foldlRecOn _ _ h fun _ h _ _ => h.bcastF ha hsrc

theorem Good.broadcastAInv {st c s} (ha : AsgOK c) (h : Good st c μ s) (l : Nat) :
    Good st c μ (Precond.broadcastAInv c s l) := by
  rw [broadcastAInv_eq]
  exact (h.steps _ Cell.allocA_lok).sendFs ha
    (ha.invA_mem l) _

theorem Good.broadcastGInv {st c s} (ha : AsgOK c) (h : Good st c μ s) (l : Nat) :
    Good st c μ (Precond.broadcastGInv c s l) := by
  rw [broadcastGInv_eq]
  exact (h.steps _ Cell.allocG_lok).sendFs ha
    (ha.invG_mem l) _

theorem Good.invStep {st c s} (ha : AsgOK c) (h : Good st c μ s) (d : Rat) (l : Nat) :
    Good st c μ (Refine.invStep c d s l) := by
  unfold Refine.invStep
  extract_lets s1 s2 s3
  have h1 : Good st c μ s1 := h.computeAInv _ l d
  have h2 : Good st c μ s2 := iteInduction (fun _ => h1.broadcastAInv ha l) fun _ => h1
  have h3 : Good st c μ s3 := h2.computeGInv _ l d
  exact iteInduction (fun _ => h3.broadcastGInv ha l) fun _ => h3

theorem Good.broadcastGrad {st c s} (ha : AsgOK c) (h : Good st c μ s) (l : Nat) :
    Good st c μ (Precond.broadcastGrad c s l) := by
  rw [broadcastGrad_eq]
  refine List.foldlRecOn _ _ h fun s h r0 hr0 => ?_
  have hsrc := ha.src_recv r0 l (mem_worldRanks.mp (List.mem_filter.mp hr0).1)
  exact iteInduction (fun _ => h) fun hlen =>
    (h.steps (c.asg.recv r0) Cell.allocGr_lok).bcast (ha.recv_lt r0) (two_le_length_of_mem hsrc hlen) hsrc l .grad

theorem Good.gradStep {st c s} (ha : AsgOK c) (h : Good st c μ s) (d : Rat) (l : Nat) :
    Good st c μ (Refine.gradStep c d s l) := by
  unfold Refine.gradStep
  extract_lets s1
  have h1 : Good st c μ s1 :=
    List.foldlRecOn _ _ h fun s h r _ => by rw [precondGrad_eq]; exact h.run (Cell.precondGrad_lok (h.lok r l))
  exact iteInduction (fun _ => h1.broadcastGrad ha l) fun _ => h1

theorem Good.clipRead {st c s} (h : Good st c μ s) : Good st c μ (Refine.clipRead c s) := by
  rw [clipRead_eq]; exact h.eachCell _ _ Cell.clipStep_lok

theorem Good.clearGrads {st c s} (h : Good st c μ s) : Good st c μ (Refine.clearGrads c s) := by
  rw [clearGrads_eq]; exact h.mapCells fun hx => { hx with grad := .none }

theorem Good.invFlush {st c s} (ha : AsgOK c) (h : Good st c μ s) (ius : Nat) (d : Rat) :
    Good st c μ (Refine.invFlush c ius d s) :=
  iteInduction (fun _ => (List.foldlRecOn _ _ h fun _ h l _ => h.invStep ha d l).flushBucket) fun _ => h

theorem Good.gradTail {st c s} (ha : AsgOK c) (h : Good st c μ s) (d : Rat) :
    Good st c (List.replicate c.layers.length 0) (Refine.gradTail c d s) :=
  (List.foldlRecOn _ _ h fun _ h l _ => h.gradStep ha d l).flushBucket.clipRead.clearGrads.congr rfl rfl rfl rfl rfl

theorem Good.resetBatch {st c s} (h : Good st c μ s) : Good st c μ (Precond.resetBatch c s) := by
  rw [resetBatch_eq]; exact h.mapCells fun hx => hx.batch

theorem Good.memUsage {st c s} (h : Good st c μ s) : Good st c μ (Precond.memUsage c s) := by
  rw [memUsage_eq]; exact h.flushBucket.eachCell _ _ Cell.rd_lok

theorem Good.saveState {st c s} (h : Good st c μ s) (inclF : Bool) :
    Good st c μ (Precond.saveState c s inclF) := by
  rw [saveState_eq]; exact iteInduction (fun _ => h) fun _ => h.eachCell _ _ Cell.rd_lok

theorem Good.freshOf {st c s} (h : Good st c μ s) (snap : St) :
    Good st c (List.replicate c.layers.length 0) (Precond.freshOf c s snap) := by
  refine ⟨h.nIss, h.wfs, fun r l => ?_, by simp [Precond.freshOf, St.init], by simp [Precond.freshOf, St.init],
    fun _ => rfl, h.sF, rfl⟩
  rw [getL_freshOf]; exact LOK.empty

theorem SlotOK.strip {st ev r} (o : Option Slot) : SlotOK st ev r (Refine.strip o) := by
  cases o <;> trivial

theorem Good.loadFacs {st c t} (h : Good st c μ t) (s : St) : Good st c μ (Refine.loadFacs c s t) := by
  rw [loadFacs_eq]; exact h.mapCells fun hx => { hx with aFactor := .strip _, gFactor := .strip _ }

theorem Good.invAll {st c t} (ha : AsgOK c) (h : Good st c μ t) (d : Rat) (l : Nat) :
    Good st c μ (Precond.invAll c d t l) := by
  unfold Precond.invAll
  extract_lets t1
  have h1 : Good st c μ t1 := List.foldlRecOn _ _ h fun _ h r _ => (h.computeAInv r l d).computeGInv r l d
  exact iteInduction (fun _ => (h1.broadcastAInv ha l).broadcastGInv ha l) fun _ => h1

theorem Good.loadInto {st c s} (ha : AsgOK c) (h : Good st c μ s) (snap : St) (inclF compInv : Bool) :
    Good st c (List.replicate c.layers.length 0) (Precond.loadInto c s snap inclF compInv) := by
  rw [loadInto_eq]
  have h2 := (h.freshOf snap).loadFacs snap
  exact iteInduction (fun _ => h.freshOf snap) fun _ => iteInduction (fun _ => h2) fun _ =>
    List.foldlRecOn _ _ h2 fun _ h l _ => h.invAll ha _ l

theorem Good.saveLoad {st c s} (ha : AsgOK c) (h : Good st c μ s) (inclF compInv : Bool) :
    Good st c (List.replicate c.layers.length 0) (Precond.saveLoad c s inclF compInv) :=
  (h.saveState inclF).loadInto ha _ inclF compInv

end KV.PI
