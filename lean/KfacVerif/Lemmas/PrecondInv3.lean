/-
Invariants of the M-Precond state machine, part 3: queued requests.  `QB b s`: the open bucket is
`b`, every queued factor slot names a request of the bucket filed under its own (layer, A/G) key,
no other slot is queued, and no stall has been emitted.  The factor phases (training passes, the
factor update of `step()` in no-hook mode) keep it as long as every (layer, A/G) key is visited at
most once between two flushes; after a flush nothing is queued and the strict `Good` holds
(`Good.facFlush`), whence `step()` (`Good.stepAll'`) and one training pass of an iteration (`pass_ok`).
Core Lean only.
-/
import KfacVerif.Lemmas.PrecondInv2

namespace KV.PI
open KV KV.Precond
open KV.HR (rdVal rdSt)
open KV.BucketLink (putFac)

def keyIn (b : List BItem) (q l : Nat) (isA : Bool) : Prop :=
  ∃ i ∈ b, i.req = q ∧ i.layer = l ∧ i.isA = isA

def hasKey (b : List BItem) (l : Nat) (isA : Bool) : Prop :=
  ∃ i ∈ b, i.layer = l ∧ i.isA = isA

def QSlot (b : List BItem) (l : Nat) (isA : Bool) : Option Slot → Prop
  | some ⟨_, .queued q⟩ => keyIn b q l isA
  | _ => True

def NotQ : Option Slot → Prop
  | some ⟨_, .queued _⟩ => False
  | _ => True

theorem NotQ.qslot {b l isA o} (h : NotQ o) : QSlot b l isA o := by
  match o, h with
  | .none, _ => trivial
  | some ⟨_, .ready⟩, _ => trivial
  | some ⟨_, .issued _⟩, _ => trivial

theorem QSlot.notQ {b l isA o} (h : QSlot b l isA o) (hk : ¬ hasKey b l isA) : NotQ o := by
  match o, h with
  | .none, _ => trivial
  | some ⟨_, .ready⟩, _ => trivial
  | some ⟨_, .issued _⟩, _ => trivial
  | some ⟨_, .queued q⟩, h =>
    obtain ⟨i, hi, _, h2, h3⟩ := h
    exact hk ⟨i, hi, h2, h3⟩

theorem QSlot.mono {b l isA o} (t : List BItem) (h : QSlot b l isA o) : QSlot (b ++ t) l isA o := by
  match o, h with
  | .none, _ => trivial
  | some ⟨_, .ready⟩, _ => trivial
  | some ⟨_, .issued _⟩, _ => trivial
  | some ⟨_, .queued q⟩, h =>
    obtain ⟨i, hi, h1⟩ := h
    exact ⟨i, List.mem_append_left _ hi, h1⟩

theorem NotQ.none : NotQ none := trivial
theorem NotQ.ready {v} : NotQ (some ⟨v, .ready⟩) := trivial
theorem NotQ.issued {v id} : NotQ (some ⟨v, .issued id⟩) := trivial
theorem QSlot.none {b l isA} : QSlot b l isA none := trivial
theorem QSlot.ready {b l isA v} : QSlot b l isA (some ⟨v, .ready⟩) := trivial
theorem QSlot.issued {b l isA v id} : QSlot b l isA (some ⟨v, .issued id⟩) := trivial

theorem QSlot.rdVal {b l isA o} (h : QSlot b l isA o) : QSlot b l isA (HR.rdVal o) := by
  match o, h with
  | .none, _ => trivial
  | some ⟨_, .ready⟩, _ => trivial
  | some ⟨_, .issued _⟩, _ => trivial
  | some ⟨_, .queued _⟩, h => exact h

theorem QSlot.ema {b l isA l' isA' α v o} (h : QSlot b l isA o) :
    QSlot b l isA (some (Cell.emaSlot l' isA' α v o)) := by
  match o, h with
  | .none, _ => trivial
  | some ⟨_, .ready⟩, _ => trivial
  | some ⟨_, .issued _⟩, _ => trivial
  | some ⟨_, .queued _⟩, h => exact h

structure QL (b : List BItem) (l : Nat) (x : LState) : Prop where
  aFactor : QSlot b l true x.aFactor
  gFactor : QSlot b l false x.gFactor
  qa : NotQ x.qa
  da : NotQ x.da
  qg : NotQ x.qg
  dg : NotQ x.dg
  dgda : NotQ x.dgda
  aInv : NotQ x.aInv
  gInv : NotQ x.gInv
  grad : NotQ x.grad

theorem QL.empty {b l} : QL b l {} :=
  ⟨trivial, trivial, trivial, trivial, trivial, trivial, trivial, trivial, trivial, trivial⟩

theorem QL.mono {b l x} (t : List BItem) (h : QL b l x) : QL (b ++ t) l x :=
  { h with aFactor := h.aFactor.mono t, gFactor := h.gFactor.mono t }

theorem QL.batch {b l x a n g m} (h : QL b l x) :
    QL b l { x with aBatch := a, aCount := n, gBatch := g, gCount := m } :=
  { h with }

theorem QL.setFac {b l x o} (isA : Bool) (h : QL b l x) (ho : QSlot b l isA o) :
    QL b l (if isA then { x with aFactor := o } else { x with gFactor := o }) := by
  cases isA
  · exact { h with gFactor := ho }
  · exact { h with aFactor := ho }

structure QB (b : List BItem) (s : St) : Prop where
  ql : ∀ r l, QL b l (getL s r l)
  sf : stallFree s
  bkt : s.bucket = b

theorem QB.congr {b s s'} (h : QB b s) (h1 : s'.script = s.script) (h3 : s'.ranks = s.ranks)
    (h4 : s'.bucket = s.bucket) : QB b s' := by
  refine ⟨?_, ?_, h4.trans h.bkt⟩
  · intro r l; simp only [getL, h3]; exact h.ql r l
  · intro a ha; rw [h1] at ha; exact h.sf a ha

theorem QB.act {b s s' a} (h : QB b s) (ha : isStall a = false) (h1 : s'.script = a :: s.script)
    (h3 : s'.ranks = s.ranks) (h4 : s'.bucket = s.bucket) : QB b s' := by
  refine ⟨?_, ?_, h4.trans h.bkt⟩
  · intro r l; simp only [getL, h3]; exact h.ql r l
  · intro x hx
    rw [h1] at hx
    rcases List.mem_cons.mp hx with rfl | hx
    · exact ha
    · exact h.sf x hx

theorem QB.setL {b s} (h : QB b s) {r l : Nat} {x : LState} (hx : QL b l x) :
    QB b (Precond.setL s r l x) := by
  refine ⟨fun r' l' => ?_, h.sf, h.bkt⟩
  rcases getL_setL_cases s r l x r' l' with ⟨h1, _, h3⟩ | h1
  · rw [h1, h3]; exact hx
  · rw [h1]; exact h.ql r' l'

theorem QB.fail {b s} (h : QB b s) (r : Nat) (w : String) : QB b (Precond.fail s r w) := by
  rcases fail_eq s r w with e | e <;> rw [e]
  · exact h
  · exact h.congr rfl rfl rfl

theorem QB.rdSt {b s r sl} (h : QB b s) (hn : NotQ sl) : QB b (rdSt s r sl) := by
  match sl, hn with
  | .none, _ => exact h
  | some ⟨v, .ready⟩, _ => exact h
  | some ⟨v, .issued id⟩, _ => exact h.act (a := .wait r id) rfl rfl rfl rfl

def QOut (b : List BItem) (l : Nat) (x : LState) (p : Cell.Out) : Prop :=
  (∀ f ∈ p.rs, NotQ (x.get f)) ∧ p.All (QL b l)

theorem QOut.write {b l x y} (hy : QL b l y) : QOut b l x (.write [] y) := ⟨nofun, hy⟩

theorem QOut.read {b l x y f} (hf : NotQ (x.get f)) (hy : QL b l y) : QOut b l x (.write [f] y) :=
  ⟨List.forall_mem_singleton.mpr hf, hy⟩

theorem QB.run {b s r l} {p : Cell.Out} (h : QB b s) (hp : QOut b l (getL s r l) p) : QB b (Cell.run s r l p) :=
  have hr : QB b (Cell.reads s r (getL s r l) p.rs) := List.foldlRecOn _ _ h fun _ h f hf => h.rdSt (hp.1 f hf)
  match p, hp, hr with
  | .fail _ w, _, hr => hr.fail r w
  | .write _ _, hp, hr => hr.setL hp.2

theorem Cell.saveBatch_ql {b l x isA r pass} (hx : QL b l x) : QOut b l x (Cell.saveBatch l isA r pass x) := by
  unfold Cell.saveBatch
  split <;> split <;> exact .write hx.batch

/-- the factor of `isA` is read: its key must not be in the bucket -/
theorem Cell.updateFactor_ql {b l x isA α} (hx : QL b l x) (hk : ¬ hasKey b l isA) :
    QOut b l x (Cell.updateFactor l isA α x) := by
  unfold Cell.updateFactor
  cases isA
  · cases x.gBatch
    · exact .write hx
    · exact .read (hx.gFactor.notQ hk) { hx with gFactor := hx.gFactor.rdVal.ema }
  · cases x.aBatch
    · exact .write hx
    · exact .read (hx.aFactor.notQ hk) { hx with aFactor := hx.aFactor.rdVal.ema }

theorem Cell.readFac_ql {b l x isA} (hx : QL b l x) (hk : ¬ hasKey b l isA) : QOut b l x (Cell.readFac isA x) := by
  cases isA
  · exact .read (hx.gFactor.notQ hk) { hx with gFactor := hx.gFactor.rdVal }
  · exact .read (hx.aFactor.notQ hk) { hx with aFactor := hx.aFactor.rdVal }

theorem QB.forSave {b c s} (h : QB b s) (l : Nat) (isA : Bool) :
    QB b (forRanks c s fun s r => Precond.saveBatch s r l isA) :=
  List.foldlRecOn _ _ h fun _ hs r _ => hs.run (Cell.saveBatch_ql (hs.ql r l))

theorem QB.updateFactor {b s} (h : QB b s) (r l : Nat) (isA : Bool) (α : Rat) (hk : ¬ hasKey b l isA) :
    QB b (Precond.updateFactor s r l isA α) := by
  rw [updateFactor_eq]; exact h.run (Cell.updateFactor_ql (h.ql r l) hk)

theorem QB.forUpdate {b c s} (h : QB b s) (l : Nat) (isA : Bool) (α : Rat) (hk : ¬ hasKey b l isA) :
    QB b (forRanks c s fun s r => Precond.updateFactor s r l isA α) :=
  List.foldlRecOn _ _ h fun _ hs r _ => hs.updateFactor r l isA α hk

theorem flushFix_notQ (b : List BItem) (id : Nat) (l : Nat) (isA : Bool) (o : Option Slot)
    (ho : QSlot b l isA o) : NotQ (flushFix b id o) := by
  match o, ho with
  | .none, _ => trivial
  | some ⟨v, .ready⟩, _ => trivial
  | some ⟨v, .issued i⟩, _ => trivial
  | some ⟨v, .queued q⟩, ho =>
    obtain ⟨i, hi, h1, _⟩ := ho
    have : b.any (·.req == q) = true := List.any_eq_true.mpr ⟨i, hi, beq_iff_eq.mpr h1⟩
    simp only [flushFix, Option.map_some, this, if_true]
    trivial

theorem QB.flushBucket {b c s} (h : QB b s) : QB [] (Precond.flushBucket c s) := by
  rw [flushBucket_eq]
  refine iteInduction (fun he => ?_) fun _ => ⟨fun r l => ?_, ?_, rfl⟩
  · have : s.bucket = [] := by simpa using he
    exact ⟨(h.bkt.symm.trans this) ▸ h.ql, h.sf, this⟩
  · show QL [] l (getL _ r l)
    rw [getL_map (s := s) _ rfl rfl, h.bkt]
    have hl : QL b l (getL s r l) := h.ql r l
    exact { hl with aFactor := (flushFix_notQ b _ l true _ hl.aFactor).qslot,
                    gFactor := (flushFix_notQ b _ l false _ hl.gFactor).qslot }
  · exact (h.act (a := .issue _ _) rfl rfl rfl rfl : QB b (issue s _ _).1).sf

theorem SlotOK.strict {ev r o} (h : SlotOK false ev r o) (hn : NotQ o) : SlotOK true ev r o := by
  match o, h, hn with
  | .none, _, _ => trivial
  | some ⟨_, .ready⟩, _, _ => trivial
  | some ⟨_, .issued _⟩, h, _ => exact h

theorem QSlot.notQ_nil {l isA o} (h : QSlot [] l isA o) : NotQ o :=
  h.notQ (by rintro ⟨i, hi, _⟩; simp at hi)

theorem Good.strict {c μ s} (h : Good false c μ s) (hq : QB [] s) : Good true c μ s := by
  refine ⟨h.nIss, h.wfs, ?_, h.shape, h.bkt, fun _ => hq.bkt, fun _ => hq.sf, h.mini⟩
  intro r l
  have a := h.lok r l
  have b := hq.ql r l
  exact ⟨a.1.strict b.1.notQ_nil, a.2.strict b.2.notQ_nil, a.3.strict b.3, a.4.strict b.4, a.5.strict b.5,
    a.6.strict b.6, a.7.strict b.7, a.8.strict b.8, a.9.strict b.9, a.10.strict b.10⟩

theorem SlotOK.notQ {ev r o} (h : SlotOK true ev r o) : NotQ o := by
  match o, h with
  | .none, _ => trivial
  | some ⟨_, .ready⟩, _ => trivial
  | some ⟨_, .issued _⟩, _ => trivial

theorem Good.toQB {c μ s} (h : Good true c μ s) : QB [] s := by
  refine ⟨?_, h.sF rfl, h.sB rfl⟩
  intro r l
  have a := h.lok r l
  exact ⟨a.1.notQ.qslot, a.2.notQ.qslot, a.3.notQ, a.4.notQ, a.5.notQ, a.6.notQ, a.7.notQ, a.8.notQ,
    a.9.notQ, a.10.notQ⟩

theorem QB.putFac {b c s l isA avg p} (h : QB b s) (ho : QSlot b l isA (some ⟨avg, p⟩)) :
    QB b (putFac c l isA avg p s) :=
  List.foldlRecOn _ _ h fun _ h r _ => h.setL ((h.ql r l).setFac isA ho)

theorem QB.addBucket {b s} (h : QB b s) (i : BItem) (n : Nat) :
    QB (b ++ [i]) { s with bucket := s.bucket ++ [i], nextReq := n } :=
  ⟨fun r l => (h.ql r l).mono [i], h.sf, by simp [h.bkt]⟩

def Grew (K : BItem → Prop) (b b' : List BItem) : Prop := ∀ i ∈ b', i ∈ b ∨ K i

theorem Grew.refl {K b} : Grew K b b := fun _ => .inl

theorem Grew.nil {K b} : Grew K b [] := nofun

theorem Grew.snoc {K b b' i} (h : Grew K b b') (hi : K i) : Grew K b (b' ++ [i]) := fun j hj =>
  (List.mem_append.mp hj).elim (h j) fun e => .inr (List.mem_singleton.mp e ▸ hi)

theorem Grew.imp {K K' : BItem → Prop} {b b'} (hK : ∀ i, K i → K' i) (h : Grew K b b') : Grew K' b b' :=
  fun i hi => (h i hi).imp_right (hK i)

theorem Grew.trans {K b b1 b2} (h1 : Grew K b b1) (h2 : Grew K b1 b2) : Grew K b b2 := fun i hi =>
  (h2 i hi).elim (h1 i) .inr

theorem Grew.all {K b b'} {P : BItem → Prop} (h : Grew K b b') (hb : ∀ i ∈ b, P i) (hK : ∀ i, K i → P i) :
    ∀ i ∈ b', P i := fun i hi =>
  (h i hi).elim (hb i) (hK i)

def QBx (b : List BItem) (l : Nat) (isA : Bool) (s : St) : Prop :=
  ∃ b', QB b' s ∧ Grew (fun i => i.layer = l ∧ i.isA = isA) b b'

theorem QB.x {b l isA s} (h : QB b s) : QBx b l isA s := ⟨b, h, .refl⟩

theorem QB.reduceTail {b c s} (h : QB b s) (l : Nat) (isA : Bool) : QBx b l isA (reduceTail c s l isA) := by
  unfold Precond.reduceTail
  refine iteInduction (fun _ => h.x) fun _ => ?_
  extract_lets elems avg s2 s3
  have h2 : QB b s2 := h.congr rfl rfl rfl
  refine iteInduction (fun _ => ?_) fun _ => QB.x ?_
  · obtain ⟨bb, h3, hsub⟩ : QBx b l isA s3 := iteInduction (fun _ => ⟨[], h2.flushBucket, .nil⟩) fun _ => h2.x
    exact ⟨bb ++ [_], (h3.addBucket _ _).putFac ⟨⟨s3.nextReq, l, isA, elems⟩, by simp, rfl, rfl, rfl⟩,
      hsub.snoc ⟨rfl, rfl⟩⟩
  · exact (h2.act (a := .issue _ _) rfl rfl rfl rfl : QB b (issue s2 _ _).1).putFac .issued

theorem QB.reduceFactor {b c s} (h : QB b s) (l : Nat) (isA : Bool) (hk : ¬ hasKey b l isA) :
    QBx b l isA (Precond.reduceFactor c s l isA) := by
  rw [reduceFactor_eq]
  exact iteInduction (fun _ => (h.fail _ _).x) fun _ => QB.reduceTail
    (List.foldlRecOn _ _ h fun _ h r _ => h.run (Cell.readFac_ql (h.ql r l) hk)) l isA

/-- A loop over distinct layers.  Its body for layer `l` wants the bucket free of the keys `(l, isA)`
    with `F isA` and files only such keys; `J rem` is what else holds while the layers `rem` are
    still to come. -/
theorem layer_loop (F : Bool → Prop) (J : List Nat → List BItem → St → Prop) (body : St → Nat → St)
    (ls : List Nat) (hnd : ls.Nodup)
    (hbody : ∀ l t b s, l ∈ ls → l ∉ t → J (l :: t) b s → (∀ isA, F isA → ¬ hasKey b l isA) →
      ∃ b', J t b' (body s l) ∧ Grew (fun i => i.layer = l ∧ F i.isA) b b') :
    ∀ {b s}, J ls b s → (∀ i ∈ b, F i.isA → i.layer ∉ ls) →
      ∃ b', J [] b' (ls.foldl body s) ∧ Grew (fun i => F i.isA) b b' := by
  induction ls with
  | nil => intro b s h _; exact ⟨b, h, .refl⟩
  | cons l t ih =>
    intro b s h hb
    obtain ⟨hlt, hnt⟩ := List.nodup_cons.mp hnd
    obtain ⟨b1, h1, hsub⟩ := hbody l t b s (by simp) hlt h
      fun isA hF ⟨i, hi, e1, e2⟩ => hb i hi (e2 ▸ hF) (by simp [e1])
    obtain ⟨b', h', hsub'⟩ := ih hnt (fun l' t' b s hl' => hbody l' t' b s (List.mem_cons_of_mem _ hl')) h1
      (hsub.all (fun i hi hF h' => hb i hi hF (List.mem_cons_of_mem _ h')) fun i e _ => e.1 ▸ hlt)
    exact ⟨b', h', (hsub.imp fun _ => And.right).trans hsub'⟩

/-! ### `step()` -/

theorem QB.facStep {c b s} (α : Rat) (l : Nat) (hq : QB b s) (hk : ∀ isA, ¬ hasKey b l isA) :
    ∃ b', QB b' (Refine.facStep c α s l) ∧ Grew (·.layer = l) b b' := by
  unfold Refine.facStep
  have q0 : QB b { s with mini := s.mini.set l 0 } := hq.congr rfl rfl rfl
  obtain ⟨b2, q2, hsub2⟩ := (q0.forUpdate (c := c) l true α (hk true)).reduceFactor (c := c) l true (hk true)
  have hk2 : ¬ hasKey b2 l false := fun ⟨i, hi, e⟩ =>
    hsub2.all (P := fun i => ¬ (i.layer = l ∧ i.isA = false)) (fun i hi e => hk false ⟨i, hi, e⟩)
      (fun i h e => Bool.noConfusion (h.2.symm.trans e.2)) i hi e
  obtain ⟨b4, q4, hsub4⟩ := (q2.forUpdate (c := c) l false α hk2).reduceFactor (c := c) l false hk2
  exact ⟨b4, q4, (hsub2.imp fun _ => And.left).trans (hsub4.imp fun _ => And.left)⟩

/-- In a whole iteration (`hq`) the bucket has been followed up to here: every key is visited once, nothing is
    queued after the flush, and the strict invariant holds from there on. -/
theorem Good.facFlush {st c μ s} (ha : AsgOK c) (b1 : Bool) (α : Rat) (h : Good false c μ s)
    (hq : st = true → ∃ b, QB b s ∧ (b1 = true → b = [])) :
    ∃ μ', Good st c μ' (Refine.facFlush c b1 α s) := by
  obtain ⟨μ', h1⟩ : GoodE false c (if b1 then (revLayers c).foldl (Refine.facStep c α) s else s) :=
    iteInduction (fun _ => List.foldlRecOn (motive := GoodE false c) _ _ ⟨_, h⟩
      fun _ ⟨_, hs⟩ l _ => ⟨_, hs.facStep ha.world_pos α l⟩) fun _ => ⟨μ, h⟩
  refine ⟨μ', ?_⟩
  cases st
  · exact h1.flushBucket
  obtain ⟨b, q, hb⟩ := hq rfl
  obtain ⟨b', q'⟩ : ∃ b', QB b' (if b1 then (revLayers c).foldl (Refine.facStep c α) s else s) := by
    cases b1
    · exact ⟨b, q⟩
    cases hb rfl
    exact (layer_loop (fun _ => True) (fun _ b s => QB b s) (Refine.facStep c α) (revLayers c) (revLayers_nodup c)
      (fun l _ _ _ _ _ hq hk => (hq.facStep α l fun isA => hk isA trivial).imp fun _ h =>
        ⟨h.1, h.2.imp fun _ => (⟨·, trivial⟩)⟩) q nofun).imp fun _ => And.left
  exact h1.flushBucket.strict q'.flushBucket

theorem Good.stepAll' {st c μ s} (ha : AsgOK c) (h : Good false c μ s)
    (hq : st = true → ∃ b, QB b s ∧ (c.hook = false → b = [])) :
    Good st c (List.replicate c.layers.length 0) (Precond.stepAll c s) := by
  rw [Refine.stepAll_phases]
  obtain ⟨μ', h2⟩ := h.facFlush ha (!c.hook && s.steps % s.hyper.fus.val s.steps == 0) (s.hyper.decay.val s.steps)
    fun e => (hq e).imp fun _ hb => ⟨hb.1, fun hc => hb.2 ((Bool.not_eq_true' _).mp (Bool.and_eq_true_iff.mp hc).1)⟩
  exact (h2.invFlush ha _ _).gradTail ha _

theorem Good.stepAll {c s} (ha : AsgOK c) (h : Good false c μ s) : GoodE false c (Precond.stepAll c s) :=
  ⟨_, h.stepAll' ha nofun⟩

/-! ### one training pass inside an iteration -/

/-- does a pass with counter value `j1` update and reduce the factors? -/
def fires (c : Cfg) (j1 : Nat) : Bool := c.hook && j1 % c.accum == 0

theorem QB.guard {c b l isA s t} (j1 : Nat) (hq : QB b s) (ht : QBx b l isA t) (hnf : fires c j1 = false → b = []) :
    ∃ b', QB b' (if fires c j1 then t else s) ∧
      Grew (fun i => i.layer = l ∧ i.isA = isA) b b' ∧ (fires c j1 = false → b' = []) := by
  cases hf : fires c j1
  · exact ⟨b, hq, .refl, fun _ => hnf hf⟩
  · exact ht.imp fun _ h => ⟨h.1, h.2, nofun⟩

theorem QB.fwdStep {c μ b s} (α : Rat) (j1 l : Nat) (hg : Good false c μ s) (hq : QB b s)
    (hμ : μ.getD l 0 + 1 = j1) (hk : ¬ hasKey b l true) (hnf : fires c j1 = false → b = []) :
    ∃ b', QB b' (Precond.fwdStep c α s l) ∧
      Grew (fun i => i.layer = l ∧ i.isA = true) b b' ∧ (fires c j1 = false → b' = []) := by
  unfold Precond.fwdStep
  extract_lets s1 m s2
  have e : m = j1 := by show s1.mini.getD l 0 + 1 = j1; rw [(hg.forSave l true).mini, hμ]
  have q2 : QB b s2 := (hq.forSave l true).congr rfl rfl rfl
  rw [e]
  exact q2.guard j1 ((q2.forUpdate l true α hk).reduceFactor l true hk) hnf

theorem QB.bwdStep {c μ b s} (α : Rat) (j1 l : Nat) (hg : Good false c μ s) (hq : QB b s)
    (hμ : μ.getD l 0 = j1) (hk : ¬ hasKey b l false) (hnf : fires c j1 = false → b = []) :
    ∃ b', QB b' (Precond.bwdStep c α s l) ∧
      Grew (fun i => i.layer = l ∧ i.isA = false) b b' ∧ (fires c j1 = false → b' = []) := by
  unfold Precond.bwdStep
  extract_lets s1 m
  have e : m = j1 := by show s1.mini.getD l 0 = j1; rw [(hg.forSave l false).mini, hμ]
  have q1 : QB b s1 := hq.forSave l false
  rw [e]
  exact q1.guard j1 ((q1.forUpdate l false α hk).reduceFactor l false hk) hnf

def MiniIs (c : Cfg) (μ : List Nat) (j : Nat) : Prop :=
  μ.length = c.layers.length ∧ ∀ l, l < c.layers.length → μ.getD l 0 = j

theorem pass_ok {c μ s} (hw : 0 < c.world) (j : Nat) (hg : Good false c μ s) (hq : QB [] s)
    (hμ : MiniIs c μ j) :
    ∃ μ' b', Good false c μ' (Precond.fwdBwd c s true) ∧ QB b' (Precond.fwdBwd c s true) ∧
      ((MiniIs c μ' j ∧ b' = []) ∨ (MiniIs c μ' (j + 1) ∧ (fires c (j + 1) = false → b' = []))) := by
  rw [fwdBwd_eq, if_neg (by decide)]
  split
  · exact ⟨μ, [], hg.setPass _, hq.congr rfl rfl rfl, Or.inl ⟨hμ, rfl⟩⟩
  generalize s.hyper.decay.val s.steps = α
  -- forward hooks: the layers still to come stand at `j`, the others at `j + 1`
  obtain ⟨b1, ⟨μ1, g1, q1, hlen, hval, hnf1⟩, hA⟩ := layer_loop (· = true)
    (fun rem b s => ∃ μ, Good false c μ s ∧ QB b s ∧ μ.length = c.layers.length ∧
      (∀ l, l < c.layers.length → μ.getD l 0 = if l ∈ rem then j else j + 1) ∧ (fires c (j + 1) = false → b = []))
    (fwdStep c α) (layerIdxs c) List.nodup_range
    (fun l t b s hl hlt ⟨μ, hg, hq, hlen, hval, hnf⟩ hk => by
      have hl := mem_layerIdxs.mp hl
      have hμl : μ.getD l 0 + 1 = j + 1 := by rw [hval l hl, if_pos (by simp)]
      obtain ⟨b1, q1, hsub, hnf1⟩ := hq.fwdStep α (j + 1) l hg hμl (hk true rfl) hnf
      refine ⟨b1, ⟨_, hμl ▸ hg.fwdStep hw α l, q1, List.length_set.trans hlen, fun l' hl' => ?_, hnf1⟩, hsub⟩
      by_cases e : l' = l
      · rw [e, getD_set, if_pos ⟨rfl, hlen ▸ hl⟩, if_neg hlt]
      · rw [getD_set, if_neg fun k => e k.1, hval l' hl']; simp only [List.mem_cons, e, false_or])
    ⟨μ, hg, hq, hμ.1, fun l hl => by rw [hμ.2 l hl, if_pos (mem_layerIdxs.mpr hl)], fun _ => rfl⟩ nofun
  have hμ1 : MiniIs c μ1 (j + 1) := ⟨hlen, fun l hl => by rw [hval l hl, if_neg nofun]⟩
  obtain ⟨b2, ⟨g2, q2, hnf2⟩, -⟩ := layer_loop (· = false)
    (fun _ b s => Good false c μ1 s ∧ QB b s ∧ (fires c (j + 1) = false → b = []))
    (bwdStep c α) (revLayers c) (revLayers_nodup c)
    (fun l t b s hl _ ⟨hg, hq, hnf⟩ hk => by
      obtain ⟨b1, q1, hsub, hnf1⟩ := hq.bwdStep α (j + 1) l hg (hμ1.2 l (mem_revLayers.mp hl)) (hk false rfl) hnf
      exact ⟨b1, ⟨hg.bwdStep hw α l, q1, hnf1⟩, hsub⟩)
    ⟨g1, q1, hnf1⟩ fun i hi hF => (hA i hi).elim nofun fun h => Bool.noConfusion (h.symm.trans hF)
  exact ⟨μ1, b2, g2.setPass _, q2.congr rfl rfl rfl, Or.inr ⟨hμ1, hnf2⟩⟩

end KV.PI
