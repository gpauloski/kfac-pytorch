/-
Lemmas about the bucket state machine of M-Comm, for C08 (bucketed all-reduce).  The spec-level definitions of
`Props/C08.lean` (`Event.group` … `init`) live here so that the lemmas can mention them.

* `lookupB` / `setB` are a dict (Lemmas/Assoc.lean); `curB` is the bucket a request is added to;
* `allreduceBucketed` is `stepB` on accepted requests and does nothing on rejected ones; what an accepted request
  does to the open bucket of its group is `addItem`, shared by `stepB` and the one-group machine `gStep`;
* the one-group machine `gRun` simulates `run` on every group (`run_sim`, needs distinct keys).  From facts
  about `gRun`:
  - FIFO on every group (`gRun_fifo`, `run_fifo`) → `fifo_per_group`; `gRun` skips the requests of other groups
    (`gRun_filter`) → `group_projection`;
  - capacity and dtype are facts about one bucket (`GoodItems`, `gRun_ok`) → `cap_respected`,
    `dtype_homogeneous`.
* exactly once is proved on `run` itself: by `run_fifo` the issued and the submitted (group, request) pairs agree
  group by group, and such lists are permutations of each other (`perm_of_fifo`, `run_pairs_perm`)
  → `each_tensor_once`, `pending_or_issued`.
-/
import KfacVerif.Model.Comm
import KfacVerif.Lemmas.Assoc
import Mathlib.Data.List.Basic
import Mathlib.Data.List.Perm.Basic

namespace KV.C08
open KV KV.Comm

/-! ### spec-level definitions -/

def Event.group : Event → Key
  | .allreduce g _ _ => g
  | .broadcast g _ _ _ => g

def Event.tids : Event → List Nat
  | .allreduce _ tids _ => tids
  | .broadcast _ tid _ _ => [tid]

def shapeOk (shape : List Nat) (sym : Bool) : Bool :=
  match checkShape shape sym with | .ok _ => true | .error _ => false

/-- the bucketed requests of an op list that are accepted for communication, as (group, tid) -/
def submitted : List Op → List (Key × Nat)
  | [] => []
  | .reduceB g tid shape _ _ sym :: t =>
    if g.length ≠ 1 ∧ shapeOk shape sym = true then (g, tid) :: submitted t else submitted t
  | _ :: t => submitted t

/-- bytes / dtype of a bucketed request, by request id -/
def bytesOf : List Op → Nat → Nat
  | [], _ => 0
  | .reduceB _ tid shape es _ sym :: t, q => if tid = q then commElems shape sym * es else bytesOf t q
  | _ :: t, q => bytesOf t q

def dtypeOf : List Op → Nat → Nat
  | [], _ => 0
  | .reduceB _ tid _ _ dt _ :: t, q => if tid = q then dt else dtypeOf t q
  | _ :: t, q => dtypeOf t q

/-- request ids of all bucketed calls (accepted or not) -/
def tidsOf : List Op → List Nat
  | [] => []
  | .reduceB _ tid _ _ _ _ :: t => tid :: tidsOf t
  | _ :: t => tidsOf t

def onlyBucketed (ops : List Op) : Prop := ∀ op ∈ ops, (∃ g tid sh es dt sym, op = .reduceB g tid sh es dt sym) ∨ op = .flush

def init (cap : Nat) : CState := { cap := cap, buckets := [] }

abbrev Buckets := List (Key × Option Bucket)

theorem lookupB_setB_self (k : Key) (v : Option Bucket) (bs : Buckets) :
    lookupB k (setB k v bs) = some v := by
  rw [lookupB_eq, setB_eq]; exact AL.get_set_self k v bs

theorem lookupB_setB_ne (k k' : Key) (v : Option Bucket) (bs : Buckets) (hne : k' ≠ k) :
    lookupB k (setB k' v bs) = lookupB k bs := by
  rw [lookupB_eq, setB_eq, lookupB_eq]; exact AL.get_set_ne v hne.symm bs

/-- the bucket `allreduce_bucketed` works on: the stored one, or a fresh empty one -/
def curB (g : Key) (bs : Buckets) : Bucket :=
  match lookupB g bs with
  | some (some b) => b
  | _ => { items := [] }

theorem curB_nil (g : Key) : curB g [] = { items := [] } := rfl

theorem curB_cons_self (g : Key) (b : Option Bucket) (t : Buckets) :
    curB g ((g, b) :: t) = (match b with | some b => b | none => { items := [] }) := by
  cases b <;> simp [curB, lookupB]

theorem curB_cons_ne (g k : Key) (b : Option Bucket) (t : Buckets) (h : k ≠ g) :
    curB g ((k, b) :: t) = curB g t := by
  simp [curB, lookupB, h]

/-- the effective content of a key: `(k, none)` is as good as an absent key -/
def eff (k : Key) (bs : Buckets) : Option Bucket := (lookupB k bs).join

theorem curB_eff (g : Key) (bs : Buckets) : curB g bs = (eff g bs).getD { items := [] } := by
  unfold curB eff
  cases lookupB g bs with
  | none => rfl
  | some o => cases o <;> rfl

theorem eff_setB_self (k : Key) (v : Option Bucket) (bs : Buckets) : eff k (setB k v bs) = v := by
  rw [eff, lookupB_setB_self]; rfl

theorem eff_setB_ne (k k' : Key) (v : Option Bucket) (bs : Buckets) (h : k' ≠ k) :
    eff k (setB k' v bs) = eff k bs := by
  rw [eff, lookupB_setB_ne _ _ _ _ h]; rfl

theorem eff_allnone (k : Key) (bs : Buckets) (h : ∀ e ∈ bs, e.2 = none) : eff k bs = none := by
  rw [eff, lookupB_eq]
  cases hg : AL.get k bs with
  | none => rfl
  | some v => exact congrArg Option.join (congrArg some (h _ (AL.mem_of_get hg)))

theorem curB_setB_self (g : Key) (b : Bucket) (bs : Buckets) :
    curB g (setB g (some b) bs) = b := by
  rw [curB_eff, eff_setB_self]; rfl

theorem curB_setB_ne (g g' : Key) (v : Option Bucket) (bs : Buckets) (h : g' ≠ g) :
    curB g (setB g' v bs) = curB g bs := by
  rw [curB_eff, eff_setB_ne _ _ _ _ h, curB_eff]

def mkItem (tid : Nat) (shape : List Nat) (es dt : Nat) (sym : Bool) : Item :=
  { tid := tid, elems := commElems shape sym, esize := es, dtype := dt }

def flushNow (cap : Nat) (cur : Bucket) (it : Item) : Bool :=
  cur.size + it.elems * it.esize > cap ||
    (match cur.dtype? with | some d => d != it.dtype | none => false)

/-- an accepted request meets the open bucket `cur` of its group `g`: the new open bucket, and what is issued -/
def addItem (cap : Nat) (g : Key) (cur : Bucket) (it : Item) : Bucket × List Event :=
  if flushNow cap cur it then ({ items := [it] }, emit g cur) else ({ items := cur.items ++ [it] }, [])

def stepB (s : CState) (g : Key) (it : Item) : CState × List Event :=
  ({ s with buckets := setB g (some (addItem s.cap g (curB g s.buckets) it).1) s.buckets },
    (addItem s.cap g (curB g s.buckets) it).2)

theorem shapeOk_true {shape : List Nat} {sym : Bool} (h : shapeOk shape sym = true) :
    checkShape shape sym = .ok () := by
  unfold shapeOk at h
  split at h
  · assumption
  · cases h

theorem shapeOk_false {shape : List Nat} {sym : Bool} (h : ¬ shapeOk shape sym = true) :
    ∃ e, checkShape shape sym = .error e := by
  unfold shapeOk at h
  split at h
  · simp at h
  · exact ⟨_, by assumption⟩

theorem arB_accept (s : CState) (g : Key) (tid : Nat) (shape : List Nat) (es dt : Nat) (sym : Bool)
    (hg : g.length ≠ 1) (hs : shapeOk shape sym = true) :
    allreduceBucketed s g tid shape es dt sym =
      ((stepB s g (mkItem tid shape es dt sym)).1, (stepB s g (mkItem tid shape es dt sym)).2, .future) := by
  have hc := shapeOk_true hs
  unfold allreduceBucketed stepB addItem
  simp only [beq_iff_eq, hg, if_false, hc]
  by_cases hf : flushNow s.cap (curB g s.buckets) (mkItem tid shape es dt sym) = true
  · rw [if_pos hf]; exact if_pos hf
  · rw [if_neg hf]; exact if_neg hf

theorem arB_reject (s : CState) (g : Key) (tid : Nat) (shape : List Nat) (es dt : Nat) (sym : Bool)
    (h : ¬ (g.length ≠ 1 ∧ shapeOk shape sym = true)) :
    (allreduceBucketed s g tid shape es dt sym).1 = s ∧
    (allreduceBucketed s g tid shape es dt sym).2.1 = [] := by
  unfold allreduceBucketed
  by_cases hg : g.length = 1
  · simp [hg]
  · have hs : ¬ shapeOk shape sym = true := fun hs => h ⟨hg, hs⟩
    obtain ⟨e, he⟩ := shapeOk_false hs
    simp [hg, he]

theorem step_flush (s : CState) :
    (step s .flush).1 = (flush s).1 ∧ (step s .flush).2.1 = (flush s).2 := ⟨rfl, rfl⟩

theorem run_nil (s : CState) : run s [] = (s, []) := rfl

theorem run_cons (s : CState) (op : Op) (t : List Op) :
    run s (op :: t) = ((run (step s op).1 t).1, (step s op).2.1 ++ (run (step s op).1 t).2) := rfl

theorem run_append_flush (s : CState) (ops : List Op) :
    (run s (ops ++ [.flush])).2 = (run s ops).2 ++ (flush (run s ops).1).2 := by
  induction ops generalizing s with
  | nil => exact List.append_nil _
  | cons op t ih => rw [List.cons_append, run_cons, run_cons, ih, List.append_assoc]

theorem onlyBucketed_cons {op : Op} {t : List Op} (h : onlyBucketed (op :: t)) :
    onlyBucketed t := fun o ho => h o (List.mem_cons_of_mem _ ho)

theorem submitted_cons (op : Op) (t : List Op) : submitted (op :: t) = submitted [op] ++ submitted t := by
  cases op <;> simp [submitted]
  split <;> simp

/-! ### the one-group machine -/

/-- what one bucketed op does to the bucket of group `g` and the events it issues on `g` -/
def gStep (cap : Nat) (g : Key) (cur : Bucket) : Op → Bucket × List Event
  | .reduceB g' tid shape es dt sym =>
    if g' = g ∧ g'.length ≠ 1 ∧ shapeOk shape sym = true then addItem cap g cur (mkItem tid shape es dt sym)
    else (cur, [])
  | .flush => ({ items := [] }, emit g cur)
  | _ => (cur, [])

def gRun (cap : Nat) (g : Key) : Bucket → List Op → Bucket × List Event
  | cur, [] => (cur, [])
  | cur, op :: t =>
    ((gRun cap g (gStep cap g cur op).1 t).1, (gStep cap g cur op).2 ++ (gRun cap g (gStep cap g cur op).1 t).2)

/-- the theorems of Props/C08 write this filter out as `fun e => Event.group e == g`; an `abbrev`, so that the
    two unify -/
abbrev onG (g : Key) : Event → Bool := fun e => Event.group e == g

def KeysND (bs : Buckets) : Prop := (bs.map (·.1)).Nodup

theorem mem_keys_setB (x k : Key) (v : Option Bucket) (bs : Buckets) :
    x ∈ (setB k v bs).map (·.1) ↔ x ∈ bs.map (·.1) ∨ x = k := by
  rw [setB_eq, AL.keys_set]; exact AL.mem_ins

theorem KeysND_setB (k : Key) (v : Option Bucket) (bs : Buckets) (h : KeysND bs) :
    KeysND (setB k v bs) := by
  rw [setB_eq]; exact AL.nodup_keys_set h

theorem keys_flush (s : CState) : (flush s).1.cap = s.cap ∧
    (flush s).1.buckets.map (·.1) = s.buckets.map (·.1) := by
  unfold flush
  exact ⟨rfl, by simp [List.map_map, Function.comp_def]⟩

theorem KeysND_flush (s : CState) (h : KeysND s.buckets) : KeysND (flush s).1.buckets := by
  unfold KeysND
  rw [(keys_flush s).2]
  exact h

theorem emit_events (g : Key) (b : Bucket) : ∀ e ∈ emit g b, ∃ t n, e = .allreduce g t n := by
  unfold emit
  split
  · exact fun _ h => nomatch h
  · exact fun e h => ⟨_, _, List.mem_singleton.1 h⟩

theorem filter_onG {g k : Key} {evs : List Event} (h : ∀ e ∈ evs, ∃ t n, e = .allreduce k t n) :
    evs.filter (onG g) = if k = g then evs else [] := by
  replace h : ∀ e ∈ evs, Event.group e = k := fun e he => by obtain ⟨t, n, rfl⟩ := h e he; rfl
  split
  · next hk => exact List.filter_eq_self.2 fun e he => beq_iff_eq.2 ((h e he).trans hk)
  · next hk => exact List.filter_eq_nil_iff.2 fun e he hc => hk ((h e he).symm.trans (beq_iff_eq.1 hc))

theorem addItem_events (cap : Nat) (g : Key) (cur : Bucket) (it : Item) :
    ∀ e ∈ (addItem cap g cur it).2, ∃ t n, e = .allreduce g t n := by
  unfold addItem
  split
  · exact emit_events g cur
  · exact fun _ h => nomatch h

theorem emit_nil (g : Key) : emit g { items := [] } = [] := rfl

def flushEv (bs : Buckets) : List Event :=
  bs.flatMap fun (k, b) => match b with | some b => emit k b | none => []

theorem flushEv_cons (k : Key) (b : Option Bucket) (t : Buckets) :
    flushEv ((k, b) :: t) = (match b with | some b => emit k b | none => []) ++ flushEv t := by
  simp [flushEv]

theorem flushEv_events (bs : Buckets) :
    ∀ e ∈ flushEv bs, ∃ k ∈ bs.map (·.1), ∃ t n, e = .allreduce k t n := by
  intro e he
  obtain ⟨⟨k, b⟩, hkb, he⟩ := List.mem_flatMap.1 he
  cases b with
  | none => cases he
  | some b => exact ⟨k, List.mem_map.2 ⟨_, hkb, rfl⟩, emit_events k b e he⟩

theorem flushEv_filter (g : Key) (bs : Buckets) (h : KeysND bs) :
    (flushEv bs).filter (onG g) = emit g (curB g bs) := by
  induction bs with
  | nil => rfl
  | cons kb t ih =>
    obtain ⟨k, b⟩ := kb
    unfold KeysND at h
    rw [List.map_cons, List.nodup_cons] at h
    have hb (b : Option Bucket) :
        ∀ e ∈ (match b with | some b => emit k b | none => []), ∃ t n, e = Event.allreduce k t n := by
      cases b with
      | none => exact fun _ h => nomatch h
      | some b => exact emit_events k b
    rw [flushEv_cons, List.filter_append, filter_onG (hb b)]
    by_cases hk : k = g
    · subst hk
      -- the key occurs once: nothing further down is on it
      have ht : (flushEv t).filter (onG k) = [] := List.filter_eq_nil_iff.2 fun e he hc => by
        obtain ⟨k', hk', _, _, rfl⟩ := flushEv_events t e he
        exact h.1 (beq_iff_eq.1 hc ▸ hk')
      rw [if_pos rfl, ht, List.append_nil, curB_cons_self]
      cases b <;> rfl
    · rw [if_neg hk, List.nil_append, curB_cons_ne _ _ _ _ hk, ih h.2]

theorem flush_events (s : CState) : (flush s).2 = flushEv s.buckets := rfl

theorem allnone_flush (s : CState) : ∀ e ∈ (flush s).1.buckets, e.2 = none := by
  intro e he
  obtain ⟨x, _, rfl⟩ := List.mem_map.1 he
  rfl

theorem flush_of_allnone (s : CState) (h : ∀ e ∈ s.buckets, e.2 = none) : flush s = (s, []) := by
  obtain ⟨cap, bs⟩ := s
  refine Prod.ext (congrArg (CState.mk cap) ?_) (List.flatMap_eq_nil_iff.2 fun e he => ?_)
  · refine (List.map_congr_left fun e he => ?_).trans (List.map_id bs)
    obtain ⟨k, b⟩ := e
    exact congrArg (Prod.mk k) (h _ he).symm
  · obtain ⟨k, b⟩ := e
    have hb : b = none := h _ he
    subst hb
    rfl

theorem curB_flush (g : Key) (s : CState) : curB g (flush s).1.buckets = { items := [] } := by
  rw [curB_eff, eff_allnone g _ (allnone_flush s)]; rfl

theorem pending_flush (s : CState) : pending (flush s).1 = [] := by
  simp [pending, flush, List.flatMap_map]

/-- one step of `run` seen from group `g`, for the two kinds of op that `onlyBucketed` admits -/
theorem step_sim (s : CState) (op : Op) (g : Key)
    (h : (∃ g tid sh es dt sym, op = .reduceB g tid sh es dt sym) ∨ op = .flush) (hk : KeysND s.buckets) :
    KeysND (step s op).1.buckets ∧ (step s op).1.cap = s.cap ∧
    (step s op).2.1.filter (onG g) = (gStep s.cap g (curB g s.buckets) op).2 ∧
    curB g (step s op).1.buckets = (gStep s.cap g (curB g s.buckets) op).1 := by
  rcases h with ⟨g', tid, shape, es, dt, sym, rfl⟩ | rfl
  · by_cases ha : g'.length ≠ 1 ∧ shapeOk shape sym = true
    · simp only [step, arB_accept s g' tid shape es dt sym ha.1 ha.2]
      refine ⟨KeysND_setB _ _ _ hk, rfl, ?_⟩
      rw [stepB, filter_onG (addItem_events _ _ _ _), gStep]
      by_cases hg : g' = g
      · subst hg
        rw [if_pos rfl, if_pos ⟨rfl, ha⟩]
        exact ⟨rfl, curB_setB_self _ _ _⟩
      · rw [if_neg hg, if_neg fun h' => hg h'.1]
        exact ⟨rfl, curB_setB_ne _ _ _ _ hg⟩
    · obtain ⟨r1, r2⟩ := arB_reject s g' tid shape es dt sym ha
      rw [step, r1, r2, gStep, if_neg fun h' => ha h'.2]
      exact ⟨hk, rfl, rfl, rfl⟩
  · rw [(step_flush s).1, (step_flush s).2]
    refine ⟨KeysND_flush s hk, rfl, ?_, ?_⟩
    · rw [flush_events, flushEv_filter g _ hk]; rfl
    · rw [curB_flush]; rfl

theorem run_sim (s : CState) (ops : List Op) (g : Key) (h : onlyBucketed ops) (hk : KeysND s.buckets) :
    KeysND (run s ops).1.buckets ∧
    (run s ops).2.filter (onG g) = (gRun s.cap g (curB g s.buckets) ops).2 ∧
    curB g (run s ops).1.buckets = (gRun s.cap g (curB g s.buckets) ops).1 := by
  induction ops generalizing s with
  | nil => exact ⟨hk, rfl, rfl⟩
  | cons op t ih =>
    obtain ⟨k1, c1, e1, b1⟩ := step_sim s op g (h op List.mem_cons_self) hk
    obtain ⟨i0, i1, i2⟩ := ih (step s op).1 (onlyBucketed_cons h) k1
    rw [c1, b1] at i1 i2
    rw [run_cons]
    exact ⟨i0, by simp only [gRun, List.filter_append, e1, i1], by simp only [gRun, i2]⟩

/-- the filter on ops is written as in the statement of `C08.group_projection`, which rewrites with this lemma -/
theorem gRun_filter (cap : Nat) (g : Key) (cur : Bucket) (ops : List Op) :
    gRun cap g cur (ops.filter fun op => match op with
            | .reduceB g' _ _ _ _ _ => g' == g
            | _ => true) = gRun cap g cur ops := by
  induction ops generalizing cur with
  | nil => rfl
  | cons op t ih =>
    cases op with
    | reduceB g' tid shape es dt sym =>
      by_cases hg : g' = g
      · subst hg
        simp only [List.filter_cons, beq_self_eq_true, if_true, gRun, ih]
      · have e : gStep cap g cur (.reduceB g' tid shape es dt sym) = (cur, []) := by
          simp [gStep, hg]
        simp only [List.filter_cons, beq_iff_eq, hg, if_false, gRun, ih, e, List.nil_append]
    | reduce | bcast | flush => simp only [List.filter_cons, if_true, gRun, ih]

theorem onlyBucketed_filter {ops : List Op} (h : onlyBucketed ops) (p : Op → Bool) :
    onlyBucketed (ops.filter p) := fun o ho => h o (List.mem_of_mem_filter ho)

theorem KeysND_init (cap : Nat) : KeysND (init cap).buckets := by simp [init, KeysND]

theorem emit_tids (g : Key) (b : Bucket) : (emit g b).flatMap Event.tids = b.items.map (·.tid) := by
  unfold emit
  cases h : b.items with
  | nil => rfl
  | cons x t => simp [Event.tids]

theorem addItem_tids (cap : Nat) (g : Key) (cur : Bucket) (it : Item) :
    (addItem cap g cur it).2.flatMap Event.tids ++ (addItem cap g cur it).1.items.map (·.tid)
      = cur.items.map (·.tid) ++ [it.tid] := by
  unfold addItem
  split
  · rw [emit_tids]; rfl
  · exact List.map_append

theorem gStep_fifo (cap : Nat) (g : Key) (cur : Bucket) (op : Op) :
    (gStep cap g cur op).2.flatMap Event.tids ++ (gStep cap g cur op).1.items.map (·.tid)
      = cur.items.map (·.tid) ++ ((submitted [op]).filter (fun p => p.1 == g)).map (·.2) := by
  cases op with
  | reduce | bcast => exact (List.append_nil _).symm
  | flush => rw [gStep, emit_tids]; rfl
  | reduceB g' tid shape es dt sym =>
    rw [gStep, submitted]
    by_cases ha : g'.length ≠ 1 ∧ shapeOk shape sym = true
    · rw [if_pos ha, submitted, List.filter_cons]
      by_cases hg : g' = g
      · rw [if_pos ⟨hg, ha⟩, if_pos (beq_iff_eq.2 hg)]
        exact addItem_tids ..
      · rw [if_neg fun h => hg h.1, if_neg fun h => hg (beq_iff_eq.1 h)]
        exact (List.append_nil _).symm
    · rw [if_neg fun h => ha h.2, if_neg ha]
      exact (List.append_nil _).symm

theorem gRun_fifo (cap : Nat) (g : Key) (cur : Bucket) (ops : List Op) :
    (gRun cap g cur ops).2.flatMap Event.tids ++ (gRun cap g cur ops).1.items.map (·.tid)
      = cur.items.map (·.tid) ++ ((submitted ops).filter (fun p => p.1 == g)).map (·.2) := by
  induction ops generalizing cur with
  | nil => simp [gRun, submitted]
  | cons op t ih =>
    rw [submitted_cons]
    simp only [gRun, List.flatMap_append, List.append_assoc, ih, List.filter_append, List.map_append]
    rw [← List.append_assoc, gStep_fifo, List.append_assoc]

/-- on group `g`, what has been issued followed by what a flush would issue now is what was pending at
    the start followed by what was submitted, in order -/
theorem run_fifo (s : CState) (ops : List Op) (g : Key) (h : onlyBucketed ops) (hk : KeysND s.buckets) :
    (((run s ops).2 ++ flushEv (run s ops).1.buckets).filter (onG g)).flatMap Event.tids
      = ((flushEv s.buckets).filter (onG g)).flatMap Event.tids
        ++ ((submitted ops).filter (fun p => p.1 == g)).map (·.2) := by
  obtain ⟨hk', e, c⟩ := run_sim s ops g h hk
  rw [List.filter_append, List.flatMap_append, flushEv_filter g _ hk', flushEv_filter g _ hk,
    emit_tids, emit_tids, e, c]
  exact gRun_fifo ..

/-! ### every accepted request exactly once

Two lists of (group, request) pairs that agree group by group, in order, are permutations of each other;
`run_fifo` says the issued and the submitted pairs do. -/

theorem count_pair {α β : Type} [BEq α] [LawfulBEq α] [BEq β] [LawfulBEq β] (a : α) (b : β)
    (l : List (α × β)) :
    l.count (a, b) = ((l.filter (·.1 == a)).map (·.2)).count b := by
  induction l with
  | nil => rfl
  | cons p l ih =>
    obtain ⟨a', b'⟩ := p
    have e : ((a', b') == (a, b)) = (a' == a && b' == b) := rfl
    rw [List.count_cons, e, ih, List.filter_cons]
    cases ha : a' == a
    · rfl
    · rw [if_pos rfl, List.map_cons, List.count_cons, Bool.true_and]

theorem perm_of_fifo {α β : Type} [BEq α] [LawfulBEq α] [BEq β] [LawfulBEq β] {l₁ l₂ : List (α × β)}
    (h : ∀ a, (l₁.filter (·.1 == a)).map (·.2) = (l₂.filter (·.1 == a)).map (·.2)) : l₁.Perm l₂ :=
  List.perm_iff_count.2 fun ⟨a, b⟩ => by rw [count_pair, count_pair, h a]

def evPairs (evs : List Event) : List (Key × Nat) :=
  evs.flatMap fun e => (Event.tids e).map fun t => (Event.group e, t)

theorem evPairs_append (a b : List Event) : evPairs (a ++ b) = evPairs a ++ evPairs b := by
  simp [evPairs]

theorem evPairs_map_snd (evs : List Event) : (evPairs evs).map (·.2) = evs.flatMap Event.tids := by
  simp [evPairs, List.map_flatMap, Function.comp_def]

theorem evPairs_filter (g : Key) (evs : List Event) :
    ((evPairs evs).filter (·.1 == g)).map (·.2) = (evs.filter (onG g)).flatMap Event.tids := by
  induction evs with
  | nil => rfl
  | cons e t ih =>
    rw [← List.singleton_append, evPairs_append, List.filter_append, List.map_append, ih,
      List.filter_append, List.flatMap_append]
    congr 1
    by_cases he : Event.group e = g <;> simp [evPairs, onG, he, List.filter_map, Function.comp_def]

theorem run_pairs_perm (s : CState) (ops : List Op) (h : onlyBucketed ops) (hk : KeysND s.buckets) :
    (evPairs ((run s ops).2 ++ flushEv (run s ops).1.buckets)).Perm
      (evPairs (flushEv s.buckets) ++ submitted ops) := by
  refine perm_of_fifo fun g => ?_
  rw [List.filter_append, List.map_append, evPairs_filter, evPairs_filter]
  exact run_fifo s ops g h hk

theorem pending_eq (s : CState) : pending s = (flushEv s.buckets).flatMap Event.tids := by
  unfold pending flushEv
  induction s.buckets with
  | nil => rfl
  | cons kb t ih =>
    obtain ⟨k, b⟩ := kb
    rw [List.flatMap_cons, List.flatMap_cons, List.flatMap_append, ih]
    cases b with
    | none => rfl
    | some b => rw [emit_tids]

/-! ### bucket-content invariant (capacity, dtype) -/

/-- contents of a bucket: sizes / dtypes recorded by `fb` / `fd`, within capacity unless a single
    item, one dtype -/
def GoodItems (cap : Nat) (fb fd : Nat → Nat) (items : List Item) : Prop :=
  (∀ it ∈ items, fb it.tid = it.elems * it.esize ∧ fd it.tid = it.dtype) ∧
  ((Bucket.mk items).size ≤ cap ∨ items.length ≤ 1) ∧
  (∀ a ∈ items, ∀ b ∈ items, a.dtype = b.dtype)

def EvOk (cap : Nat) (fb fd : Nat → Nat) (e : Event) : Prop :=
  (((Event.tids e).map fb).sum ≤ cap ∨ (Event.tids e).length = 1) ∧
  (∀ a ∈ Event.tids e, ∀ b ∈ Event.tids e, fd a = fd b)

theorem GoodItems_nil (cap : Nat) (fb fd : Nat → Nat) : GoodItems cap fb fd [] := by
  simp [GoodItems]

theorem GoodItems_single (cap : Nat) (fb fd : Nat → Nat) (it : Item)
    (h : fb it.tid = it.elems * it.esize ∧ fd it.tid = it.dtype) : GoodItems cap fb fd [it] := by
  simp [GoodItems, h]

theorem homog_append {α β : Type} (f : α → β) {l : List α} {x : α}
    (hl : ∀ a ∈ l, ∀ b ∈ l, f a = f b) (hx : ∀ h ∈ l.head?, f h = f x) :
    ∀ a ∈ l ++ [x], ∀ b ∈ l ++ [x], f a = f b := by
  have key : ∀ a ∈ l, f a = f x := fun a ha => by
    cases l with
    | nil => cases ha
    | cons h t => exact (hl a ha h List.mem_cons_self).trans (hx h rfl)
  intro a ha b hb
  rcases List.mem_append.1 ha with ha | ha <;> rcases List.mem_append.1 hb with hb | hb
  · exact hl a ha b hb
  · rw [List.mem_singleton.1 hb]; exact key a ha
  · rw [List.mem_singleton.1 ha]; exact (key b hb).symm
  · rw [List.mem_singleton.1 ha, List.mem_singleton.1 hb]

theorem GoodItems_append (cap : Nat) (fb fd : Nat → Nat) (cur : Bucket) (it : Item)
    (hc : GoodItems cap fb fd cur.items)
    (h : fb it.tid = it.elems * it.esize ∧ fd it.tid = it.dtype)
    (hf : ¬ flushNow cap cur it = true) : GoodItems cap fb fd (cur.items ++ [it]) := by
  obtain ⟨c1, c2, c3⟩ := hc
  simp only [flushNow, Bool.or_eq_true, decide_eq_true_eq, not_or, Nat.not_lt] at hf
  obtain ⟨f1, f2⟩ := hf
  refine ⟨?_, ?_, ?_⟩
  · intro a ha
    rcases List.mem_append.1 ha with ha | ha
    · exact c1 a ha
    · rw [List.mem_singleton.1 ha]; exact h
  · left
    simpa [Bucket.size] using f1
  · refine homog_append Item.dtype c3 fun h hh => ?_
    rw [Bucket.dtype?, Option.mem_def.1 hh] at f2
    simpa using f2

theorem emit_ok (cap : Nat) (fb fd : Nat → Nat) (g : Key) (b : Bucket)
    (hb : GoodItems cap fb fd b.items) : ∀ e ∈ emit g b, EvOk cap fb fd e := by
  obtain ⟨c1, c2, c3⟩ := hb
  unfold emit
  split
  · exact fun _ h => nomatch h
  · rename_i hne
    intro e he
    rw [List.mem_singleton.1 he]
    refine ⟨c2.imp (fun h => ?_) (fun h => ?_), fun a ha b' hb' => ?_⟩
    · rw [Event.tids, List.map_map]
      exact Nat.le_trans (Nat.le_of_eq (congrArg List.sum (List.map_congr_left fun a ha => (c1 a ha).1))) h
    · rw [Event.tids, List.length_map]
      exact Nat.le_antisymm h (List.length_pos_iff.2 fun h0 => hne (h0 ▸ rfl))
    · obtain ⟨ia, hia, rfl⟩ := List.mem_map.1 ha
      obtain ⟨ib, hib, rfl⟩ := List.mem_map.1 hb'
      rw [(c1 ia hia).2, (c1 ib hib).2]
      exact c3 ia hia ib hib

theorem addItem_ok (cap : Nat) (fb fd : Nat → Nat) (g : Key) (cur : Bucket) (it : Item)
    (hc : GoodItems cap fb fd cur.items) (hi : fb it.tid = it.elems * it.esize ∧ fd it.tid = it.dtype) :
    GoodItems cap fb fd (addItem cap g cur it).1.items ∧ ∀ e ∈ (addItem cap g cur it).2, EvOk cap fb fd e := by
  unfold addItem
  split
  · exact ⟨GoodItems_single _ _ _ _ hi, emit_ok _ _ _ _ _ hc⟩
  · next hf => exact ⟨GoodItems_append _ _ _ _ _ hc hi hf, fun _ h => nomatch h⟩

theorem gStep_ok (cap : Nat) (fb fd : Nat → Nat) (g : Key) (cur : Bucket) (op : Op)
    (hc : GoodItems cap fb fd cur.items)
    (hgood : ∀ g tid sh es dt sym, op = .reduceB g tid sh es dt sym →
      fb tid = commElems sh sym * es ∧ fd tid = dt) :
    GoodItems cap fb fd (gStep cap g cur op).1.items ∧ ∀ e ∈ (gStep cap g cur op).2, EvOk cap fb fd e := by
  cases op with
  | reduce | bcast => exact ⟨hc, fun _ h => nomatch h⟩
  | flush => exact ⟨GoodItems_nil .., emit_ok _ _ _ _ _ hc⟩
  | reduceB g' tid shape es dt sym =>
    rw [gStep]
    split
    · exact addItem_ok _ _ _ _ _ _ hc (hgood g' tid shape es dt sym rfl)
    · exact ⟨hc, fun _ h => nomatch h⟩

theorem gRun_ok (cap : Nat) (fb fd : Nat → Nat) (g : Key) (cur : Bucket) (ops : List Op)
    (hc : GoodItems cap fb fd cur.items)
    (hgood : ∀ g tid sh es dt sym, .reduceB g tid sh es dt sym ∈ ops →
      fb tid = commElems sh sym * es ∧ fd tid = dt) :
    ∀ e ∈ (gRun cap g cur ops).2, EvOk cap fb fd e := by
  induction ops generalizing cur with
  | nil => simp [gRun]
  | cons op t ih =>
    obtain ⟨c1, e1⟩ := gStep_ok cap fb fd g cur op hc
      (fun g tid sh es dt sym he => hgood g tid sh es dt sym (he ▸ List.mem_cons_self))
    intro e he
    rcases List.mem_append.1 he with he | he
    · exact e1 e he
    · exact ih _ c1 (fun g tid sh es dt sym h => hgood g tid sh es dt sym (List.mem_cons_of_mem _ h)) e he

/-- every event of `run` is an event of the one-group machine of its own group -/
theorem run_events_ok (cap : Nat) (fb fd : Nat → Nat) (ops : List Op) (h : onlyBucketed ops)
    (hgood : ∀ g tid sh es dt sym, .reduceB g tid sh es dt sym ∈ ops →
      fb tid = commElems sh sym * es ∧ fd tid = dt) :
    ∀ e ∈ (run (init cap) ops).2, EvOk cap fb fd e := by
  intro e he
  have : e ∈ (run (init cap) ops).2.filter (onG (Event.group e)) :=
    List.mem_filter.2 ⟨he, beq_self_eq_true _⟩
  rw [(run_sim (init cap) ops _ h (KeysND_init cap)).2.1] at this
  exact gRun_ok cap fb fd _ _ ops (GoodItems_nil ..) hgood e this

theorem mem_tidsOf {g tid sh es dt sym} {ops : List Op}
    (h : Op.reduceB g tid sh es dt sym ∈ ops) : tid ∈ tidsOf ops := by
  induction ops with
  | nil => cases h
  | cons op t ih =>
    rcases List.mem_cons.1 h with h' | h'
    · subst h'; simp [tidsOf]
    · cases op <;> simp [tidsOf, ih h']

theorem ops_good (ops : List Op) (hd : (tidsOf ops).Nodup) :
    ∀ g tid sh es dt sym, .reduceB g tid sh es dt sym ∈ ops →
      bytesOf ops tid = commElems sh sym * es ∧ dtypeOf ops tid = dt := by
  induction ops with
  | nil => intro g tid sh es dt sym h; cases h
  | cons op t ih =>
    intro g tid sh es dt sym h
    rcases List.mem_cons.1 h with h' | h'
    · subst h'; simp [bytesOf, dtypeOf]
    · cases op with
      | reduceB g' tid' sh' es' dt' sym' =>
        simp only [tidsOf, List.nodup_cons] at hd
        have hne : tid' ≠ tid := fun e => hd.1 (e ▸ mem_tidsOf h')
        simpa [bytesOf, dtypeOf, hne] using ih hd.2 g tid sh es dt sym h'
      | reduce | bcast | flush => exact ih hd g tid sh es dt sym h'

end KV.C08
