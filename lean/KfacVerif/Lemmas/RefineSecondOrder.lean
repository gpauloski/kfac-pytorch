/-
Refinement Precond ⟶ Spec: effects of the second-order and gradient primitives (`computeAInv`,
`computeGInv`, `broadcastAInv`, `broadcastGInv`, `precondGrad`, `broadcastGrad`) and of the gradient
phase of one layer.  The inverse broadcasts are taken in the form of `broadcastAInv_eq` (PrecondOps): the workers
run `Cell.allocA`/`Cell.allocG`, then `sendFs` sends the fields `fldsA`/`fldsG`.  Names, all on the value
view `LV`: `gCA`/`gCG`/`gPG` are what `computeAInv`/`computeGInv`/`precondGrad` do to the cell they run in,
`gAllocA`/`gAllocG`/`gAllocGr` what the allocation of receive buffers does; `bcA root v`/`bcG root v` is what
a member holding `v` holds after the broadcast from a root holding `root`; `pgOf v` is the preconditioned
gradient computed from `v`; `Holds root fs`: the root has every field of `fs`.  Core Lean only.
-/
import KfacVerif.Lemmas.RefineView

namespace KV.Refine
open KV KV.Precond

def gCA (m : Method) (d : Rat) (v : LV) : LV :=
  match m with
  | .eigen => { v with qa := some (.eigQ (v.aFactor.getD .zero)), da := some (.eigD (v.aFactor.getD .zero)) }
  | .inverse => { v with aInv := some (.inv (v.aFactor.getD .zero) d) }

def gCG (m : Method) (prediv : Bool) (d : Rat) (v : LV) : LV :=
  match m with
  | .eigen =>
    if prediv then
      { v with qg := some (.eigQ (v.gFactor.getD .zero)),
               dgda := some (.outerInv (.eigD (v.gFactor.getD .zero)) (v.da.getD .garbage) d),
               dg := none, da := none }
    else { v with qg := some (.eigQ (v.gFactor.getD .zero)), dg := some (.eigD (v.gFactor.getD .zero)) }
  | .inverse => { v with gInv := some (.inv (v.gFactor.getD .zero) d) }

theorem Cell.computeAInv_lv (c : Cfg) (d : Rat) (x : LState) :
    (Cell.computeAInv c d x).All fun y => lv y = gCA c.method d (lv x) := by
  unfold Cell.computeAInv
  refine .ite (fun _ => trivial) fun _ => ?_
  cases c.method <;> simp [Cell.Out.All, lv, gCA]

theorem Cell.computeGInv_lv (c : Cfg) (d : Rat) (x : LState) :
    (Cell.computeGInv c d x).All fun y => lv y = gCG c.method c.prediv d (lv x) := by
  unfold Cell.computeGInv
  refine .ite (fun _ => trivial) fun _ => ?_
  cases c.method
  · refine .ite (fun _ => trivial) fun _ => .ite (fun hp => ?_) fun hp => ?_
    · simp [Cell.Out.All, lv, gCG, hp]
    · simp [Cell.Out.All, lv, gCG, hp]
  · simp [Cell.Out.All, lv, gCG]

theorem compBoth_ok {c s r l d} (he : OK (computeGInv c (computeAInv c s r l d) r l d)) : OK s := by
  rw [computeGInv_eq, computeAInv_eq] at he
  exact (ok_of_run (ok_of_run he).1).1

theorem compBoth_eff {c s} (hs : Shape c s) {r l : Nat} (hr : r < c.world) (hl : l < c.layers.length) (d : Rat)
    (he : OK (computeGInv c (computeAInv c s r l d) r l d)) :
    Eff c s (computeGInv c (computeAInv c s r l d) r l d) (fun r' l' => r' = r ∧ l' = l)
      (fun _ _ v => gCG c.method c.prediv d (gCA c.method d v)) := by
  rw [computeGInv_eq, computeAInv_eq] at he ⊢
  have ea := Eff.run hs hr hl (ok_of_run he).1 (Cell.computeAInv_lv c d _)
  exact ea.comp (Eff.run ea.shape hr hl he (Cell.computeGInv_lv c d _))

theorem bcastF_err (c s l src elems f) : (bcastF c s l src elems f).err = s.err := by
  unfold bcastF
  split
  · rfl
  · exact bcast_err ..

/-- a group of one (where the real code sends nothing) is no exception: the root already holds the field -/
theorem bcastF_eff {c s} (hs : Shape c s) {l : Nat} (hl : l < c.layers.length)
    (hmem : ∀ r, r ∈ c.asg.workers l → r < c.world) {src : Nat} (hsrc : src ∈ c.asg.workers l) (elems : Nat)
    (f : Fld) (hroot : (cell s src l).get f ≠ none) :
    Eff c s (bcastF c s l src elems f) (fun r' l' => r' ∈ c.asg.workers l ∧ l' = l)
      (fun _ _ v => v.set f ((cell s src l).get f)) := by
  unfold bcastF
  split
  · rename_i h1
    obtain ⟨a, e⟩ := List.length_eq_one_iff.mp (by simpa using h1)
    refine Eff.id_of hs _ _ ?_
    rintro r l' ⟨hr, rfl⟩
    rw [e, List.mem_singleton] at hr hsrc
    rw [hr, ← hsrc]
    exact LV.set_get ..
  · refine (bcast_eff hs hl _ hmem _ f).congrG fun _ _ _ => ?_
    exact congrArg _ (Option.getD_of_ne_none hroot _)

def LV.copy (root : LV) (fs : List Fld) (v : LV) : LV := fs.foldl (fun v f => v.set f (root.get f)) v

def Holds (root : LV) (fs : List Fld) : Prop := (fs.all fun f => (root.get f).isSome) = true

theorem Holds.head {root : LV} {f : Fld} {fs : List Fld} (h : Holds root (f :: fs)) : root.get f ≠ none :=
  Option.isSome_iff_ne_none.mp (Bool.and_eq_true_iff.mp h).1

theorem Holds.tail {root : LV} {f : Fld} {fs : List Fld} (h : Holds root (f :: fs)) : Holds root fs :=
  (Bool.and_eq_true_iff.mp h).2

theorem sendFs_err (c l src fs s) : (sendFs c l src fs s).err = s.err :=
  foldl_pres St.err _ (fun _ _ => bcastF_err ..) _ _

theorem sendFs_eff {c s} (hs : Shape c s) {l : Nat} (hl : l < c.layers.length)
    (hmem : ∀ r, r ∈ c.asg.workers l → r < c.world) {src : Nat} (hsrc : src ∈ c.asg.workers l)
    (fs : List Fld) (hroot : Holds (cell s src l) fs) :
    Eff c s (sendFs c l src fs s) (fun r' l' => r' ∈ c.asg.workers l ∧ l' = l)
      (fun _ _ v => (cell s src l).copy fs v) := by
  induction fs generalizing s with
  | nil => exact Eff.id_of hs _ _ fun _ _ _ => rfl
  | cons f fs ih =>
    have e1 := bcastF_eff hs hl hmem hsrc (elemsOf c l f) f hroot.head
    have hr1 : cell (bcastF c s l src (elemsOf c l f) f) src l = cell s src l := by
      rw [e1.on hsrc]; exact LV.set_get ..
    have e2 := ih e1.shape (hr1 ▸ hroot.tail)
    rw [hr1] at e2
    exact e1.comp e2

/-! ### receive buffers before the inverse broadcasts -/

def fillIf (miss : LV → Bool) (fill : LV → LV) (v : LV) : LV := if miss v then fill v else v

theorem fillIf_idem {miss : LV → Bool} {fill : LV → LV} (h : ∀ v, miss (fill v) = false) (v : LV) :
    fillIf miss fill (fillIf miss fill v) = fillIf miss fill v := by
  unfold fillIf
  by_cases hm : miss v = true
  · simp [hm, h]
  · simp [hm]

theorem fillIf_neg {miss : LV → Bool} {fill : LV → LV} {v : LV} (h : miss v = false) : fillIf miss fill v = v := by
  simp [fillIf, h]

theorem lv_fill {miss : LV → Bool} {fill : LV → LV} {x y : LState} (hm : miss (lv x) = true)
    (hy : lv y = fill (lv x)) : lv y = fillIf miss fill (lv x) := by
  rw [fillIf, if_pos hm]; exact hy

theorem lv_keep {miss : LV → Bool} {fill : LV → LV} {x y : LState} (hm : ¬ miss (lv x) = true)
    (hy : lv y = lv x) : lv y = fillIf miss fill (lv x) := by
  rw [fillIf, if_neg hm]; exact hy

/-- what a non-holder lacks, and the empty buffers it allocates -/
def missA (m : Method) (p : Bool) (v : LV) : Bool :=
  match m with
  | .eigen => v.qa.isNone || (!p && v.da.isNone)
  | .inverse => v.aInv.isNone

def fillA (m : Method) (v : LV) : LV :=
  match m with
  | .eigen => { v with qa := some .garbage, da := some .garbage }
  | .inverse => { v with aInv := some .garbage }

def missG (m : Method) (p : Bool) (v : LV) : Bool :=
  match m with
  | .eigen => v.qg.isNone || (!p && v.dg.isNone) || (p && v.dgda.isNone)
  | .inverse => v.gInv.isNone

def fillG (m : Method) (p : Bool) (v : LV) : LV :=
  match m with
  | .eigen => if p then { v with qg := some .garbage, dgda := some .garbage }
              else { v with qg := some .garbage, dg := some .garbage }
  | .inverse => { v with gInv := some .garbage }

def gAllocA (m : Method) (p : Bool) : LV → LV := fillIf (missA m p) (fillA m)
def gAllocG (m : Method) (p : Bool) : LV → LV := fillIf (missG m p) (fillG m p)

theorem Cell.allocA_lv (c : Cfg) (src r : Nat) (x : LState) :
    (Cell.allocA c src r x).All fun y => lv y = gAllocA c.method c.prediv (lv x) := by
  unfold Cell.allocA
  cases c.method <;>
    refine .ite (fun h => .ite (fun _ => trivial) fun _ => .ite (fun _ => trivial) fun _ => lv_fill ?_ ?_)
      fun h => lv_keep ?_ ?_
  · simpa [missA, lv] using h
  · simp [fillA, lv]
  · simpa [missA, lv] using h
  · simp [lv]
  · simpa [missA, lv] using h
  · simp [fillA, lv]
  · simpa [missA, lv] using h
  · simp [lv]

theorem Cell.allocG_lv (c : Cfg) (src r : Nat) (x : LState) :
    (Cell.allocG c src r x).All fun y => lv y = gAllocG c.method c.prediv (lv x) := by
  unfold Cell.allocG
  cases c.method
  · refine .ite (fun h => .ite (fun _ => trivial) fun _ => .ite (fun _ => trivial) fun _ =>
        .ite (fun hp => .ite (fun _ => trivial) fun _ => lv_fill ?_ ?_) fun hp => lv_fill ?_ ?_)
      fun h => lv_keep ?_ ?_
    · simpa [missG, lv] using h
    · simp [fillG, lv, hp]
    · simpa [missG, lv] using h
    · simp [fillG, lv, hp]
    · simpa [missG, lv] using h
    · simp [lv]
  · refine .ite (fun h => .ite (fun _ => trivial) fun _ => .ite (fun _ => trivial) fun _ => lv_fill ?_ ?_)
      fun h => lv_keep ?_ ?_
    · simpa [missG, lv] using h
    · simp [fillG, lv]
    · simpa [missG, lv] using h
    · simp [lv]

theorem gAllocA_idem (m p v) : gAllocA m p (gAllocA m p v) = gAllocA m p v :=
  fillIf_idem (fun v => by cases m <;> simp [missA, fillA]) v

theorem gAllocG_idem (m p v) : gAllocG m p (gAllocG m p v) = gAllocG m p v :=
  fillIf_idem (fun v => by cases m <;> cases p <;> simp [missG, fillG]) v

theorem gAllocA_root {m p v} (h : Holds v (fldsA m p)) : gAllocA m p v = v := by
  apply fillIf_neg
  cases m <;> cases p <;> simp_all [Holds, fldsA, LV.get, missA]

theorem gAllocG_root {m p v} (h : Holds v (fldsG m p)) : gAllocG m p v = v := by
  apply fillIf_neg
  cases m <;> cases p <;> simp_all [Holds, fldsG, LV.get, missG]

/-- what the members of the layer's worker group hold after `broadcast_a_inv`.  Pre-dividing, `da` is not sent,
    but a member that lacked `qa` has allocated both (`Cell.allocA`) and is left with an empty `da`: what is sent
    does not cover what was allocated, unlike on the `G` side (`copy_gAllocG`) -/
def bcA (m : Method) (p : Bool) (root v : LV) : LV :=
  match m with
  | .eigen => if p then { v with qa := root.qa, da := if v.qa = none then some .garbage else v.da }
              else { v with qa := root.qa, da := root.da }
  | .inverse => { v with aInv := root.aInv }

def bcG (m : Method) (p : Bool) (root v : LV) : LV :=
  match m with
  | .eigen => if p then { v with qg := root.qg, dgda := root.dgda } else { v with qg := root.qg, dg := root.dg }
  | .inverse => { v with gInv := root.gInv }

theorem copy_fldsA (m p) (root w : LV) : root.copy (fldsA m p) w =
    match m with
    | .eigen => if p then { w with qa := root.qa } else { w with qa := root.qa, da := root.da }
    | .inverse => { w with aInv := root.aInv } := by
  cases m <;> cases p <;> rfl

theorem copy_fldsG (m p) (root w : LV) : root.copy (fldsG m p) w = bcG m p root w := by
  cases m <;> cases p <;> rfl

theorem copy_gAllocA (m p root v) : root.copy (fldsA m p) (gAllocA m p v) = bcA m p root v := by
  unfold gAllocA fillIf
  by_cases h : missA m p v = true
  · rw [if_pos h, copy_fldsA]; cases m <;> cases p <;> simp_all [bcA, missA, fillA]
  · rw [if_neg h, copy_fldsA]; cases m <;> cases p <;> simp_all [bcA, missA]

/-- what is sent covers what was allocated -/
theorem copy_gAllocG (m p root v) : root.copy (fldsG m p) (gAllocG m p v) = bcG m p root v := by
  unfold gAllocG fillIf
  by_cases h : missG m p v = true
  · rw [if_pos h, copy_fldsG]; cases m <;> cases p <;> rfl
  · rw [if_neg h, copy_fldsG]

theorem allocSend_ok {c : Cfg} {l src : Nat} {fs : List Fld} {p : Nat → LState → Cell.Out}
    {s : St} (he : OK (sendFs c l src fs ((c.asg.workers l).foldl (Cell.step p l) s))) : OK s := by
  rw [OK, sendFs_err] at he
  exact foldl_step_ok he

theorem allocSend_eff {c s} (hs : Shape c s) {l : Nat} (hl : l < c.layers.length)
    (hmem : ∀ r, r ∈ c.asg.workers l → r < c.world) {src : Nat} (hsrc : src ∈ c.asg.workers l)
    (p : Nat → LState → Cell.Out) (g : LV → LV) (hidem : ∀ v, g (g v) = g v)
    (hp : ∀ r x, (p r x).All fun y => lv y = g (lv x)) (fs : List Fld)
    (hroot : Holds (cell s src l) fs) (hg : g (cell s src l) = cell s src l)
    (he : OK (sendFs c l src fs ((c.asg.workers l).foldl (Cell.step p l) s))) :
    Eff c s (sendFs c l src fs ((c.asg.workers l).foldl (Cell.step p l) s))
      (fun r' l' => r' ∈ c.asg.workers l ∧ l' = l) (fun _ _ v => (cell s src l).copy fs (g v)) := by
  rw [OK, sendFs_err] at he
  have e1 := foldl_step hs hl _ hmem p g hidem hp he
  have hr1 : cell ((c.asg.workers l).foldl (Cell.step p l) s) src l = cell s src l := by
    rw [e1.on hsrc]; exact hg
  have e2 := sendFs_eff e1.shape hl hmem hsrc fs (hr1 ▸ hroot)
  rw [hr1] at e2
  exact e1.comp e2

theorem broadcastAInv_ok {c s l} (he : OK (broadcastAInv c s l)) : OK s :=
  allocSend_ok (broadcastAInv_eq c s l ▸ he)

theorem broadcastGInv_ok {c s l} (he : OK (broadcastGInv c s l)) : OK s :=
  allocSend_ok (broadcastGInv_eq c s l ▸ he)

theorem broadcastAInv_eff {c s} (hs : Shape c s) {l : Nat} (hl : l < c.layers.length)
    (hmem : ∀ r, r ∈ c.asg.workers l → r < c.world) (ha : c.asg.invA l ∈ c.asg.workers l)
    (hroot : Holds (cell s (c.asg.invA l) l) (fldsA c.method c.prediv)) (he : OK (broadcastAInv c s l)) :
    Eff c s (broadcastAInv c s l) (fun r' l' => r' ∈ c.asg.workers l ∧ l' = l)
      (fun _ _ v => bcA c.method c.prediv (cell s (c.asg.invA l) l) v) := by
  rw [broadcastAInv_eq] at he ⊢
  exact (allocSend_eff hs hl hmem ha _ _ (gAllocA_idem _ _) (Cell.allocA_lv c _) _ hroot (gAllocA_root hroot)
    he).congrG fun _ _ _ => copy_gAllocA ..

theorem broadcastGInv_eff {c s} (hs : Shape c s) {l : Nat} (hl : l < c.layers.length)
    (hmem : ∀ r, r ∈ c.asg.workers l → r < c.world) (ha : c.asg.invG l ∈ c.asg.workers l)
    (hroot : Holds (cell s (c.asg.invG l) l) (fldsG c.method c.prediv)) (he : OK (broadcastGInv c s l)) :
    Eff c s (broadcastGInv c s l) (fun r' l' => r' ∈ c.asg.workers l ∧ l' = l)
      (fun _ _ v => bcG c.method c.prediv (cell s (c.asg.invG l) l) v) := by
  rw [broadcastGInv_eq] at he ⊢
  exact (allocSend_eff hs hl hmem ha _ _ (gAllocG_idem _ _) (Cell.allocG_lv c _) _ hroot (gAllocG_root hroot)
    he).congrG fun _ _ _ => copy_gAllocG ..

def pgOf (m : Method) (p : Bool) (l steps : Nat) (d : Rat) (v : LV) : V :=
  match m with
  | .eigen =>
    if p then .pcEigPre (v.qa.getD .garbage) (v.qg.getD .garbage) (v.dgda.getD .garbage) (.rawGrad l steps)
    else .pcEig (v.qa.getD .garbage) (v.da.getD .garbage) (v.qg.getD .garbage) (v.dg.getD .garbage) d (.rawGrad l steps)
  | .inverse => .pcInv (v.aInv.getD .garbage) (v.gInv.getD .garbage) (.rawGrad l steps)

def gPG (m : Method) (p : Bool) (steps : Nat) (d : Rat) (l : Nat) (v : LV) : LV :=
  { v with grad := some (pgOf m p l steps d v) }

theorem Cell.precondGrad_lv (c : Cfg) (l steps : Nat) (d : Rat) (x : LState) :
    (Cell.precondGrad c l steps d x).All fun y => lv y = gPG c.method c.prediv steps d l (lv x) := by
  unfold Cell.precondGrad
  cases c.method
  · refine .ite (fun _ => trivial) fun _ => ?_
    cases c.prediv <;> simp [Cell.Out.All, gPG, pgOf, lv]
  · exact .ite (fun _ => trivial) fun _ => by simp [Cell.Out.All, gPG, pgOf, lv]

def gAllocGr : LV → LV := fillIf (·.grad.isNone) fun v => { v with grad := some .garbage }

theorem gAllocGr_setGrad (v : LV) (o : Option V) : (gAllocGr v).set .grad o = { v with grad := o } := by
  unfold gAllocGr fillIf; split <;> rfl

theorem gAllocGr_getD (v : LV) : (gAllocGr v).grad.getD .garbage = v.grad.getD .garbage := by
  unfold gAllocGr fillIf; split <;> simp_all

theorem Cell.allocGr_lv (src r : Nat) (x : LState) : (Cell.allocGr src r x).All fun y => lv y = gAllocGr (lv x) := by
  unfold Cell.allocGr
  refine .ite (fun _ => trivial) fun _ => ?_
  by_cases h : x.grad.isNone = true
  · exact lv_fill (by simpa [lv] using h) (by simp [lv, h])
  · exact lv_keep (by simpa [lv] using h) (by simp [lv, h])

theorem rowStep_ok {c l s r0} (he : OK (rowStep c l s r0)) : OK s := by
  unfold rowStep at he
  split at he
  · exact he
  · rw [OK, bcast_err] at he
    exact foldl_step_ok he

/-- the source of a receiver group is a gradient worker; if these all hold `pg`, every member ends with it -/
theorem rowStep_eff {c s} (hc : CfgOK2 c) (hs : Shape c s) {l : Nat} (hl : l < c.layers.length) {r0 : Nat}
    (hr0 : r0 < c.world) (pg : V) (hw : ∀ r, r ∈ c.asg.workers l → (cell s r l).grad = some pg)
    (he : OK (rowStep c l s r0)) :
    Eff c s (rowStep c l s r0) (fun r' l' => r' ∈ c.asg.recv r0 ∧ l' = l)
      (fun _ _ v => { v with grad := some pg }) := by
  have hsrc := hc.src_recv r0 l hr0
  have hpg := hw _ (hc.src_worker r0 l hr0)
  unfold rowStep at he ⊢
  by_cases hlen : ((c.asg.recv r0).length == 1) = true
  · -- a group of one sends nothing: its member is the source and holds `pg` already
    rw [if_pos hlen]
    obtain ⟨a, hrecv⟩ := List.length_eq_one_iff.mp (by simpa using hlen)
    refine Eff.id_of hs _ _ ?_
    rintro r l' ⟨hr, e'⟩
    rw [hrecv, List.mem_singleton] at hr hsrc
    rw [e', hr, ← hsrc, ← hpg]
  · rw [if_neg hlen] at he ⊢
    rw [OK, bcast_err] at he
    have e1 := foldl_step hs hl _ (hc.recv_lt r0) _ gAllocGr (fillIf_idem fun _ => rfl) (Cell.allocGr_lv _) he
    refine (e1.comp (bcast_eff e1.shape hl _ (hc.recv_lt r0) _ .grad)).congrG fun r l' _ => ?_
    show (gAllocGr _).set .grad (some ((cell _ (c.asg.src r0 l) l).grad.getD .garbage)) = _
    rw [gAllocGr_setGrad, e1.on hsrc, gAllocGr_getD, hpg]
    rfl

theorem broadcastGrad_ok {c s l} (he : OK (broadcastGrad c s l)) : OK s := by
  rw [broadcastGrad_eq] at he
  exact foldl_mono OK _ (fun s r => rowStep_ok) _ _ he

theorem mem_gradRows {c : Cfg} {r0 : Nat} :
    r0 ∈ gradRows c ↔ r0 < c.world ∧ (c.asg.recv r0).head? = some r0 := by
  simp [gradRows, mem_worldRanks]

theorem gradStep_ok1 {c d s l} (he : OK (gradStep c d s l)) :
    OK ((c.asg.workers l).foldl (fun s r => precondGrad c s r l d) s) :=
  ite_ok broadcastGrad_ok he

theorem gradStep_ok {c d s l} (he : OK (gradStep c d s l)) : OK s :=
  foldl_mono OK _ (fun _ _ h => (ok_of_run (precondGrad_eq .. ▸ h)).1) _ _ (gradStep_ok1 he)

/-- the gradient workers, who all compute `pg`, precondition; the receiver groups pass it on: every rank
    ends with `pg` -/
theorem gradStep_eff {c s} (hc : CfgOK2 c) (hs : Shape c s) {l : Nat} (hl : l < c.layers.length) (d : Rat)
    (pg : V) (hpg : ∀ r, r ∈ c.asg.workers l → pgOf c.method c.prediv l s.steps d (cell s r l) = pg)
    (he : OK (gradStep c d s l)) :
    Eff c s (gradStep c d s l) (fun r' l' => r' < c.world ∧ l' = l) (fun _ _ v => { v with grad := some pg }) := by
  have e1 := (ranks_eff OK (fun s r => precondGrad c s r l d) l
    (fun _ _ => gPG c.method c.prediv s.steps d l) (c.asg.workers l) s (.inl fun _ _ _ => rfl)
    (fun _ _ h => (ok_of_run (precondGrad_eq .. ▸ h)).1)
    (fun s' r _ hr e h => by
      rw [precondGrad_eq] at h ⊢
      exact e.same.steps ▸ Eff.run e.shape (hc.workers_lt l r hr) hl h (Cell.precondGrad_lv ..)) hs
    (gradStep_ok1 he)).congrG (G' := fun _ _ v => { v with grad := some pg })
    (by rintro r _ ⟨hr, rfl⟩; rw [gPG, hpg r hr])
  unfold gradStep at he ⊢
  simp only [] at he ⊢
  generalize (c.asg.workers l).foldl (fun s r => precondGrad c s r l d) s = s1 at e1 he ⊢
  cases hb : c.asg.bcastGrad <;> simp only [hb, Bool.false_eq_true, if_false, if_true] at he ⊢
  · exact e1.congrK fun r _ => and_congr_left' ⟨hc.workers_lt l r, hc.nobg_all hb l r⟩
  rw [broadcastGrad_eq] at he ⊢
  have e2 := foldl_effQ OK c (rowStep c l) (fun r0 r' l' => r' ∈ c.asg.recv r0 ∧ l' = l)
    (fun _ _ v => { v with grad := some pg }) (gradRows c) s1 (.inl fun _ _ _ => rfl) (fun _ _ => rowStep_ok)
    (fun s' r0 K' hr0 e hok => rowStep_eff hc e.shape hl (mem_gradRows.mp hr0).1 pg (fun r hr => by
      -- whatever the groups so far have done, the workers hold `pg`
      by_cases k : K' r l
      · rw [e.hit r l k]
      · rw [e.miss r l k, e1.on hr]) hok) e1.shape he
  refine (e1.union e2 fun _ _ _ _ => rfl).congrK fun r l' => ⟨?_, fun ⟨hr, h⟩ => ?_⟩
  · rintro (⟨hr, h⟩ | ⟨r0, _, hr, h⟩)
    · exact ⟨hc.workers_lt l r hr, h⟩
    · exact ⟨hc.recv_lt r0 r hr, h⟩
  · obtain ⟨r0, hr0w, hhead, hmem⟩ := hc.rows r hr
    exact .inr ⟨r0, mem_gradRows.mpr ⟨hr0w, hhead⟩, hmem, h⟩

end KV.Refine
