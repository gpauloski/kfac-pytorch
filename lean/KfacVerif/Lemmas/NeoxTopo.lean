/-
The GPT-NeoX 3-D topology assignment (property C12).  A rank is the three-digit number
`(p * dp + d) * mp + m` (Lemmas/Radix.lean), so the coordinate maps are rewrite rules; a data- or
model-parallel group is a line of the grid (two coordinates fixed), and factor / gradient-source workers
are the one rank where a model line meets a data line of the same stage.  Then `place`/`invWorker`,
balance, and which process group becomes the stage group.
-/
import KfacVerif.Model.Neox
import KfacVerif.Lemmas.Greedy
import KfacVerif.Lemmas.Assoc
import KfacVerif.Lemmas.Radix

namespace KV.C12
open KV KV.Neox

structure TopoOK (t : Topo) : Prop where
  pp : 0 < t.pp
  dp : 0 < t.dp
  mp : 0 < t.mp

/-- dict keys are unique -/
def WorkOK (work : Work) : Prop := (work.map (·.1)).Nodup

/-! ### coordinates -/

theorem rankOf_eq (t : Topo) (p d m : Nat) : t.rankOf p d m = (p * t.dp + d) * t.mp + m := by
  rw [Topo.rankOf, Nat.add_mul, Nat.mul_assoc]

section
variable {t : Topo} {p d m r : Nat}

theorem rankOf_lt (hp : p < t.pp) (hd : d < t.dp) (hm : m < t.mp) : t.rankOf p d m < t.world := by
  rw [rankOf_eq]; exact Radix.lt (Radix.lt hp hd) hm

theorem pipeOf_rankOf (hd : d < t.dp) (hm : m < t.mp) : t.pipeOf (t.rankOf p d m) = p := by
  rw [rankOf_eq]; exact (Radix.decode3 p hd hm).1

theorem dataOf_rankOf (hd : d < t.dp) (hm : m < t.mp) : t.dataOf (t.rankOf p d m) = d := by
  rw [rankOf_eq]; exact (Radix.decode3 p hd hm).2.1

theorem modelOf_rankOf (hm : m < t.mp) : t.modelOf (t.rankOf p d m) = m := by
  rw [rankOf_eq]; exact Nat.mul_add_mod_of_lt hm

theorem rankOf_coords (t : Topo) (r : Nat) : t.rankOf (t.pipeOf r) (t.dataOf r) (t.modelOf r) = r := by
  rw [rankOf_eq]; exact Radix.encode3 r t.dp t.mp

theorem pipeOf_lt (hr : r < t.world) : t.pipeOf r < t.pp :=
  Radix.div_lt (Nat.mul_assoc .. ▸ hr)

theorem dataOf_lt (h : TopoOK t) (r : Nat) : t.dataOf r < t.dp := Nat.mod_lt _ h.dp

theorem modelOf_lt (h : TopoOK t) (r : Nat) : t.modelOf r < t.mp := Nat.mod_lt _ h.mp

end

/-! ### axis groups -/

theorem sameSet_iff (a b : List Nat) : sameSet a b = true ↔ (∀ x, x ∈ a ↔ x ∈ b) := by
  unfold sameSet
  simp only [Bool.and_eq_true, List.all_eq_true, List.contains_iff_mem]
  exact ⟨fun ⟨h1, h2⟩ x => ⟨h1 x, h2 x⟩, fun h => ⟨fun x => (h x).1, fun x => (h x).2⟩⟩

/-- `get_group_with_rank` on an axis list `[G a b | a < A, b < B]` whose groups are the lines on which two
    coordinates `α`, `β` of a rank are constant: the answer is the line through the rank -/
theorem groupWithRank_lines {A B W : Nat} {G : Nat → Nat → List Nat} {α β : Nat → Nat}
    (hG : ∀ a < A, ∀ b < B, ∀ r, r ∈ G a b ↔ r < W ∧ α r = a ∧ β r = b)
    {loc : Nat} (hl : loc < W) (ha : α loc < A) (hb : β loc < B) :
    groupWithRank loc ((List.range A).flatMap fun a => (List.range B).map (G a)) = some (G (α loc) (β loc)) := by
  refine find?_unique ?_ (List.contains_iff_mem.2 ((hG _ ha _ hb loc).2 ⟨hl, rfl, rfl⟩)) fun g hg hc => ?_
  · exact List.mem_flatMap.2 ⟨_, List.mem_range.2 ha, List.mem_map.2 ⟨_, List.mem_range.2 hb, rfl⟩⟩
  · obtain ⟨a', ha', hg⟩ := List.mem_flatMap.1 hg
    obtain ⟨b', hb', rfl⟩ := List.mem_map.1 hg
    obtain ⟨_, rfl, rfl⟩ :=
      (hG a' (List.mem_range.1 ha') b' (List.mem_range.1 hb') loc).1 (List.contains_iff_mem.1 hc)
    rfl

section
variable {t : Topo} {p d m : Nat}

theorem mem_dataLine (h : TopoOK t) (hp : p < t.pp) (hm : m < t.mp) (r : Nat) :
    r ∈ (List.range t.dp).map (fun d => t.rankOf p d m) ↔ r < t.world ∧ t.pipeOf r = p ∧ t.modelOf r = m := by
  rw [List.mem_map]
  constructor
  · rintro ⟨d, hd, rfl⟩
    have hd := List.mem_range.1 hd
    exact ⟨rankOf_lt hp hd hm, pipeOf_rankOf hd hm, modelOf_rankOf hm⟩
  · rintro ⟨_, rfl, rfl⟩
    exact ⟨_, List.mem_range.2 (dataOf_lt h r), rankOf_coords t r⟩

theorem mem_modelLine (h : TopoOK t) (hp : p < t.pp) (hd : d < t.dp) (r : Nat) :
    r ∈ (List.range t.mp).map (fun m => t.rankOf p d m) ↔ r < t.world ∧ t.pipeOf r = p ∧ t.dataOf r = d := by
  rw [List.mem_map]
  constructor
  · rintro ⟨m, hm, rfl⟩
    have hm := List.mem_range.1 hm
    exact ⟨rankOf_lt hp hd hm, pipeOf_rankOf hd hm, dataOf_rankOf hd hm⟩
  · rintro ⟨_, rfl, rfl⟩
    exact ⟨_, List.mem_range.2 (modelOf_lt h r), rankOf_coords t r⟩

end

theorem dataPeers_eq (c : Cfg) (h : TopoOK c.t) {loc : Nat} (hl : loc < c.t.world) :
    c.dataPeers loc = (List.range c.t.dp).map fun d => c.t.rankOf (c.t.pipeOf loc) d (c.t.modelOf loc) := by
  rw [Cfg.dataPeers, Topo.dataGroups,
    groupWithRank_lines (fun _ hp _ hm => mem_dataLine h hp hm) hl (pipeOf_lt hl) (modelOf_lt h loc)]
  rfl

theorem modelPeers_eq (c : Cfg) (h : TopoOK c.t) {loc : Nat} (hl : loc < c.t.world) :
    c.modelPeers loc = (List.range c.t.mp).map fun m => c.t.rankOf (c.t.pipeOf loc) (c.t.dataOf loc) m := by
  rw [Cfg.modelPeers, Topo.modelGroups,
    groupWithRank_lines (fun _ hp _ hd => mem_modelLine h hp hd) hl (pipeOf_lt hl) (dataOf_lt h loc)]
  rfl

theorem mem_dataPeers (c : Cfg) (h : TopoOK c.t) {loc : Nat} (hl : loc < c.t.world) (r : Nat) :
    r ∈ c.dataPeers loc ↔ r < c.t.world ∧ c.t.pipeOf r = c.t.pipeOf loc ∧ c.t.modelOf r = c.t.modelOf loc := by
  rw [dataPeers_eq c h hl]
  exact mem_dataLine h (pipeOf_lt hl) (modelOf_lt h loc) r

theorem mem_modelPeers (c : Cfg) (h : TopoOK c.t) {loc : Nat} (hl : loc < c.t.world) (r : Nat) :
    r ∈ c.modelPeers loc ↔ r < c.t.world ∧ c.t.pipeOf r = c.t.pipeOf loc ∧ c.t.dataOf r = c.t.dataOf loc := by
  rw [modelPeers_eq c h hl]
  exact mem_modelLine h (pipeOf_lt hl) (dataOf_lt h loc) r

theorem mem_stagePeers (t : Topo) (p r : Nat) :
    r ∈ t.stagePeers p ↔ r < t.world ∧ t.pipeOf r = p := by
  simp [Topo.stagePeers, List.mem_filter, List.mem_range]

/-! ### place -/

theorem layerLe_iff (a b : String × Nat) :
    layerLe a b = true ↔ b.2 < a.2 ∨ (a.2 = b.2 ∧ b.1 ≤ a.1) := by
  simp [layerLe]

theorem layerLe_total (a b : String × Nat) (h : layerLe a b = false) : layerLe b a = true := by
  have h' : ¬ (b.2 < a.2 ∨ (a.2 = b.2 ∧ b.1 ≤ a.1)) := by
    rw [← layerLe_iff, h]; simp
  rw [layerLe_iff]
  rcases Nat.lt_trichotomy a.2 b.2 with h1 | h1 | h1
  · exact .inl h1
  · right
    refine ⟨h1.symm, ?_⟩
    rcases String.le_total a.1 b.1 with h2 | h2
    · exact h2
    · exact absurd (.inr ⟨h1, h2⟩) h'
  · exact absurd (.inl h1) h'

theorem layerLe_trans (a b c : String × Nat) (h1 : layerLe a b = true) (h2 : layerLe b c = true) :
    layerLe a c = true := by
  rw [layerLe_iff] at *
  rcases h1 with h1 | ⟨h1, h1'⟩ <;> rcases h2 with h2 | ⟨h2, h2'⟩
  · exact .inl (Nat.lt_trans h2 h1)
  · exact .inl (h2 ▸ h1)
  · exact .inl (h1 ▸ h2)
  · exact .inr ⟨h1.trans h2, String.le_trans h2' h1'⟩

theorem place_cons (loads : List Nat) (l : String) (c : Nat) (t : List (String × Nat)) :
    place loads ((l, c) :: t) =
      ((place (Kaisa.addLoad loads (argminIdx loads) c) t).1,
        (l, argminIdx loads) :: (place (Kaisa.addLoad loads (argminIdx loads) c) t).2) := rfl

theorem place_names : ∀ (items : List (String × Nat)) (loads : List Nat),
    (place loads items).2.map (·.1) = items.map (·.1)
  | [], _ => rfl
  | (l, c) :: t, loads => by
    rw [place_cons, List.map_cons, List.map_cons, place_names t]

theorem addLoad_ne_nil {loads : List Nat} (h : loads ≠ []) (m c : Nat) : Kaisa.addLoad loads m c ≠ [] :=
  fun e => h ((List.set_eq_nil_iff ..).1 e)

theorem place_idx_lt : ∀ (items : List (String × Nat)) (loads : List Nat), loads ≠ [] →
    ∀ x ∈ (place loads items).2, x.2 < loads.length
  | [], _, _, _, hx => nomatch hx
  | (l, c) :: t, loads, hne, x, hx => by
    rw [place_cons] at hx
    rcases List.mem_cons.1 hx with rfl | hx
    · exact (argminIdx_spec loads hne).1
    · rw [← Kaisa.length_addLoad loads (argminIdx loads) c]
      exact place_idx_lt t _ (addLoad_ne_nil hne _ _) x hx

theorem stagePeers_ne_nil (t : Topo) (h : TopoOK t) {p : Nat} (hp : p < t.pp) : t.stagePeers p ≠ [] :=
  List.ne_nil_of_mem ((mem_stagePeers t p _).2 ⟨rankOf_lt hp h.dp h.mp, pipeOf_rankOf h.dp h.mp⟩)

theorem invWorker_mem_stage (c : Cfg) (h : TopoOK c.t) {p : Nat} (hp : p < c.t.pp)
    {l : String × List (String × Nat)} (hl : l ∈ c.work) :
    ∃ inv, c.invWorker p l.1 = some inv ∧ inv < c.t.world ∧ c.t.pipeOf inv = p := by
  have hne := stagePeers_ne_nil c.t h hp
  have hne' : List.replicate (c.t.stagePeers p).length 0 ≠ [] := by
    simpa using hne
  have hk : l.1 ∈ (place (List.replicate (c.t.stagePeers p).length 0) (sortedWork c.work)).2.map (·.1) := by
    rw [place_names]
    have : (l.1, sumCosts l.2) ∈ sortedWork c.work :=
      (sortBy_perm layerLe _).mem_iff.2 (List.mem_map.2 ⟨l, hl, rfl⟩)
    exact List.mem_map.2 ⟨_, this, rfl⟩
  obtain ⟨i, h1⟩ := AL.get_isSome hk
  have hi := place_idx_lt _ _ hne' _ (AL.mem_of_get h1)
  rw [List.length_replicate] at hi
  refine ⟨(c.t.stagePeers p).getD i 0, ?_, (mem_stagePeers _ _ _).1 (getD_mem_of_lt _ _ _ hi)⟩
  unfold Cfg.invWorker
  simp only [assocGet?_eq, h1, Option.map_some]

def Bal (loads : List Nat) (M : Nat) : Prop :=
  ∀ i j, i < loads.length → j < loads.length → loads.getD i 0 ≤ loads.getD j 0 + M

theorem Bal.addLoad {loads : List Nat} {M c : Nat} (hne : loads ≠ []) (hc : c ≤ M) (hb : Bal loads M) :
    Bal (Kaisa.addLoad loads (argminIdx loads) c) M := by
  obtain ⟨a1, a2, _⟩ := argminIdx_spec loads hne
  intro i j hi hj
  rw [Kaisa.length_addLoad] at hi hj
  exact Kaisa.bal_addLoad (S := (· < loads.length)) a1 a1 a2 hc (fun a ha b hb' => hb a b ha hb') i hi j hj

theorem place_bal : ∀ (items : List (String × Nat)) (loads : List Nat) (M : Nat), loads ≠ [] →
    (∀ x ∈ items, x.2 ≤ M) → Bal loads M →
    (place loads items).1.length = loads.length ∧ Bal (place loads items).1 M
  | [], _, _, _, _, hb => ⟨rfl, hb⟩
  | (l, c) :: t, loads, M, hne, hM, hb => by
    have ih := place_bal t _ M (addLoad_ne_nil hne (argminIdx loads) c)
      (fun x hx => hM x (List.mem_cons_of_mem _ hx)) (hb.addLoad hne (hM (l, c) (List.mem_cons_self ..)))
    rwa [Kaisa.length_addLoad] at ih

/-! ### factor / gradient workers -/

theorem mem_cross (c : Cfg) (h : TopoOK c.t) {a b : Nat} (ha : a < c.t.world) (hb : b < c.t.world)
    (hab : c.t.pipeOf b = c.t.pipeOf a) (x : Nat) :
    x ∈ c.modelPeers a ∧ x ∈ c.dataPeers b ↔ x = c.t.rankOf (c.t.pipeOf a) (c.t.dataOf a) (c.t.modelOf b) := by
  rw [mem_modelPeers c h ha, mem_dataPeers c h hb, hab]
  constructor
  · rintro ⟨⟨_, x1, x2⟩, _, _, x3⟩
    rw [← x1, ← x2, ← x3, rankOf_coords]
  · rintro rfl
    have hd := dataOf_lt h a
    have hm := modelOf_lt h b
    have hlt := rankOf_lt (pipeOf_lt ha) hd hm
    exact ⟨⟨hlt, pipeOf_rankOf hd hm, dataOf_rankOf hd hm⟩, hlt, pipeOf_rankOf hd hm, modelOf_rankOf hm⟩

variable {c : Cfg} {loc inv : Nat} {layer : String}

theorem factorWorker_eq (h : TopoOK c.t) (hl : loc < c.t.world)
    (hinv : c.invWorker (c.t.pipeOf loc) layer = some inv) (hi : inv < c.t.world)
    (hip : c.t.pipeOf inv = c.t.pipeOf loc) :
    c.factorWorker loc layer = some (c.t.rankOf (c.t.pipeOf loc) (c.t.dataOf loc) (c.t.modelOf inv)) := by
  have hx := mem_cross c h hl hi hip
  unfold Cfg.factorWorker
  simp only [hinv]
  exact find?_unique ((hx _).2 rfl).1 (List.contains_iff_mem.2 ((hx _).2 rfl).2)
    (fun y hy hp => (hx y).1 ⟨hy, List.contains_iff_mem.1 hp⟩)

theorem srcGradWorker_eq (h : TopoOK c.t) (hl : loc < c.t.world)
    (hinv : c.invWorker (c.t.pipeOf loc) layer = some inv) (hi : inv < c.t.world)
    (hip : c.t.pipeOf inv = c.t.pipeOf loc) :
    c.srcGradWorker loc layer = some (c.t.rankOf (c.t.pipeOf loc) (c.t.dataOf inv) (c.t.modelOf loc)) := by
  have hx := mem_cross c h hi hl hip.symm
  rw [hip] at hx
  unfold Cfg.srcGradWorker
  simp only [hinv]
  exact find?_unique ((hx _).2 rfl).2 (List.contains_iff_mem.2 ((hx _).2 rfl).1)
    (fun y hy hp => (hx y).1 ⟨List.contains_iff_mem.1 hp, hy⟩)

theorem isGradWorker_iff (h : TopoOK c.t) (hl : loc < c.t.world)
    (hinv : c.invWorker (c.t.pipeOf loc) layer = some inv) (hi : inv < c.t.world) :
    c.isGradWorker loc layer = true ↔ loc ∈ c.modelPeers inv := by
  unfold Cfg.isGradWorker
  simp only [hinv, List.contains_iff_mem]
  rw [mem_modelPeers c h hl, mem_modelPeers c h hi]
  exact ⟨fun ⟨_, a, b⟩ => ⟨hl, a.symm, b.symm⟩, fun ⟨_, a, b⟩ => ⟨hi, a.symm, b.symm⟩⟩

/-! ### process groups -/

/-- a stage `S` coincides with one of its lines `L` iff the axis across the line has a single coordinate:
    `coord` is the coordinate along that axis (`< n`, every value taken inside the stage), constant on the line -/
theorem sameSet_stage_line {S L : List Nat} {n loc : Nat} {coord : Nat → Nat} (hn : ∀ r, coord r < n)
    (hL : ∀ r, r ∈ L ↔ r ∈ S ∧ coord r = coord loc) (hS : ∀ y < n, ∃ r ∈ S, coord r = y) :
    sameSet S L = true ↔ n = 1 := by
  have hpos : 0 < n := Nat.zero_lt_of_lt (hn loc)
  rw [sameSet_iff]
  constructor
  · intro hs
    have hall : ∀ y < n, y = coord loc := fun y hy => by
      obtain ⟨r, hr, rfl⟩ := hS y hy
      exact ((hL r).1 ((hs r).1 hr)).2
    refine Classical.byContradiction fun hne => ?_
    have h1 := hall 1 (Nat.lt_of_le_of_ne hpos (Ne.symm hne))
    exact Nat.zero_ne_one ((hall 0 hpos).trans h1.symm)
  · rintro rfl r
    exact ⟨fun hr => (hL r).2 ⟨hr, (Nat.lt_one_iff.1 (hn r)).trans (Nat.lt_one_iff.1 (hn loc)).symm⟩,
      fun hr => ((hL r).1 hr).1⟩

theorem sameSet_model_iff (c : Cfg) (h : TopoOK c.t) {loc : Nat} (hl : loc < c.t.world) :
    sameSet (c.t.stagePeers (c.t.pipeOf loc)) (c.modelPeers loc) = true ↔ c.t.dp = 1 := by
  have hm := modelOf_lt h loc
  refine sameSet_stage_line (coord := c.t.dataOf) (dataOf_lt h)
    (fun r => by rw [mem_modelPeers c h hl, mem_stagePeers, and_assoc]) (fun d hd => ?_)
  exact ⟨_, (mem_stagePeers ..).2 ⟨rankOf_lt (pipeOf_lt hl) hd hm, pipeOf_rankOf hd hm⟩, dataOf_rankOf hd hm⟩

theorem sameSet_data_iff (c : Cfg) (h : TopoOK c.t) {loc : Nat} (hl : loc < c.t.world) :
    sameSet (c.t.stagePeers (c.t.pipeOf loc)) (c.dataPeers loc) = true ↔ c.t.mp = 1 := by
  have hd := dataOf_lt h loc
  refine sameSet_stage_line (coord := c.t.modelOf) (modelOf_lt h)
    (fun r => by rw [mem_dataPeers c h hl, mem_stagePeers, and_assoc]) (fun m hm => ?_)
  exact ⟨_, (mem_stagePeers ..).2 ⟨rankOf_lt (pipeOf_lt hl) hd hm, pipeOf_rankOf hd hm⟩, modelOf_rankOf hm⟩

theorem peerGroup_eq (c : Cfg) (h : TopoOK c.t) {loc : Nat} (hl : loc < c.t.world) :
    c.peerGroup loc = if c.t.dp = 1 then .modelGroup else if c.t.mp = 1 then .dataGroup
      else .created (c.t.stagePeers (c.t.pipeOf loc)) := by
  unfold Cfg.peerGroup
  simp only [sameSet_model_iff c h hl, sameSet_data_iff c h hl]

theorem newGroupCalls_eq (c : Cfg) (h : TopoOK c.t) {loc : Nat} (hl : loc < c.t.world) :
    c.newGroupCalls loc =
      if c.t.dp = 1 ∨ c.t.mp = 1 then [] else (List.range c.t.pp).map c.t.stagePeers := by
  unfold Cfg.newGroupCalls
  rw [peerGroup_eq c h hl]
  by_cases h1 : c.t.dp = 1
  · simp [h1]
  · by_cases h2 : c.t.mp = 1 <;> simp [h1, h2]

end KV.C12
