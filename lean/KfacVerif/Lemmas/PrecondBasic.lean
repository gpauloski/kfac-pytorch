/-
Facts about the primitives of M-Precond (`getL`/`setL`, `readSlot`, `fail`, the loops over ranks and
layers, `flushBucket`) that every development over the state machine uses; the field lens `Fld`
(`LState.get`/`set`) and the shape of the table of cells (`Shape`).  Core Lean only.
-/
import KfacVerif.Model.PrecondExt
import KfacVerif.Lemmas.BasicL

namespace KV.HR
open KV.Precond

def rdVal : Option Slot → Option Slot
  | none => none
  | some x =>
    match x.pend with
    | .ready => some x
    | .issued _ => some { x with pend := .ready }
    | .queued _ => some x

def rdSt (s : St) (r : Nat) : Option Slot → St
  | none => s
  | some x =>
    match x.pend with
    | .ready => s
    | .issued id => emit s (.wait r id)
    | .queued q => emit s (.stall r q)

end KV.HR

namespace KV.Precond
open KV.HR (rdVal rdSt)

theorem readSlot_eq (s : St) (r : Nat) (sl : Option Slot) : readSlot s r sl = (rdSt s r sl, rdVal sl) := by
  rcases sl with _ | ⟨v, _ | _ | _⟩ <;> rfl

@[simp] theorem rdVal_isSome (sl : Option Slot) : (rdVal sl).isSome = sl.isSome := by
  rcases sl with _ | ⟨v, _ | _ | _⟩ <;> rfl

@[simp] theorem rdVal_isNone (sl : Option Slot) : (rdVal sl).isNone = sl.isNone := by
  rcases sl with _ | ⟨v, _ | _ | _⟩ <;> rfl

@[simp] theorem rdVal_val (sl : Option Slot) : (rdVal sl).map (·.val) = sl.map (·.val) := by
  rcases sl with _ | ⟨v, _ | _ | _⟩ <;> rfl

@[simp] theorem rdSt_none (s : St) (r : Nat) : rdSt s r none = s := rfl

theorem rdSt_eq (s : St) (r : Nat) (sl : Option Slot) : ∃ a, rdSt s r sl = { s with script := a ++ s.script } := by
  rcases sl with _ | ⟨v, _ | id | q⟩
  · exact ⟨[], rfl⟩
  · exact ⟨[], rfl⟩
  · exact ⟨[.wait r id], rfl⟩
  · exact ⟨[.stall r q], rfl⟩

@[simp] theorem rdSt_ranks (s : St) (r : Nat) (sl : Option Slot) : (rdSt s r sl).ranks = s.ranks := by
  obtain ⟨a, e⟩ := rdSt_eq s r sl; rw [e]

@[simp] theorem getL_rdSt (s : St) (r : Nat) (sl : Option Slot) (r' l' : Nat) :
    getL (rdSt s r sl) r' l' = getL s r' l' := by
  simp only [getL, rdSt_ranks]

theorem ite_pair {α β} (b : Prop) [Decidable b] (a1 a2 : α) (b1 b2 : β) :
    (if b then (a1, b1) else (a2, b2)) = ((if b then a1 else a2), (if b then b1 else b2)) := by
  split <;> rfl

@[simp] theorem getL_ite_rdSt (b : Prop) [Decidable b] (s : St) (r : Nat) (sl : Option Slot) (r' l' : Nat) :
    getL (if b then rdSt s r sl else s) r' l' = getL s r' l' := by
  split
  · exact getL_rdSt ..
  · rfl

@[simp] theorem getL_ite_rdSt' (b : Prop) [Decidable b] (s : St) (r : Nat) (sl : Option Slot) (r' l' : Nat) :
    getL (if b then s else rdSt s r sl) r' l' = getL s r' l' := by
  split
  · rfl
  · exact getL_rdSt ..

@[simp] theorem ite_rdVal_val (b : Prop) [Decidable b] (sl : Option Slot) :
    (if b then rdVal sl else sl).map (·.val) = sl.map (·.val) := by
  split
  · exact rdVal_val _
  · rfl

@[simp] theorem ite_rdVal_val' (b : Prop) [Decidable b] (sl : Option Slot) :
    (if b then sl else rdVal sl).map (·.val) = sl.map (·.val) := by
  split
  · rfl
  · exact rdVal_val _

end KV.Precond

namespace KV.HR
open KV.Precond

theorem ranks_ite_rdSt' (b : Prop) [Decidable b] (s : St) (r : Nat) (sl : Option Slot) :
    (if b then s else rdSt s r sl).ranks = s.ranks := by
  rw [apply_ite St.ranks, rdSt_ranks, ite_self]

theorem isNone_ite_rdVal (b : Prop) [Decidable b] (sl : Option Slot) :
    (if b then rdVal sl else sl).isNone = sl.isNone := by
  split
  · exact rdVal_isNone _
  · rfl

theorem isNone_ite_rdVal' (b : Prop) [Decidable b] (sl : Option Slot) :
    (if b then sl else rdVal sl).isNone = sl.isNone := by
  split
  · rfl
  · exact rdVal_isNone _

end KV.HR

namespace KV.Precond
open KV.HR (rdVal rdSt)

theorem mem_worldRanks {c : Cfg} {r : Nat} : r ∈ worldRanks c ↔ r < c.world := List.mem_range

theorem mem_layerIdxs {c : Cfg} {l : Nat} : l ∈ layerIdxs c ↔ l < c.layers.length := List.mem_range

theorem mem_revLayers {c : Cfg} {l : Nat} : l ∈ revLayers c ↔ l < c.layers.length :=
  List.mem_reverse.trans List.mem_range

theorem forRanks_inv (P : St → Prop) (c : Cfg) (f : St → Nat → St) (s : St) (h0 : P s)
    (hstep : ∀ s r, r < c.world → P s → P (f s r)) : P (forRanks c s f) :=
  List.foldlRecOn _ f h0 fun s hs r hr => hstep s r (mem_worldRanks.mp hr) hs

theorem revLayers_nodup (c : Cfg) : (revLayers c).Nodup :=
  List.pairwise_reverse.mpr (List.nodup_range.imp Ne.symm)

def InR (s : St) (r l : Nat) : Prop := r < s.ranks.length ∧ l < (s.ranks.getD r []).length

instance (s : St) (r l : Nat) : Decidable (InR s r l) := by unfold InR; infer_instance

theorem getL_setL (s : St) (r l : Nat) (x : LState) (r' l' : Nat) :
    getL (setL s r l x) r' l' = if r' = r ∧ l' = l ∧ InR s r l then x else getL s r' l' := by
  unfold getL setL InR
  rw [getD_set]
  by_cases h : r' = r ∧ r < s.ranks.length
  · obtain ⟨rfl, h2⟩ := h
    rw [if_pos ⟨rfl, h2⟩, getD_set]
    by_cases h3 : l' = l ∧ l < (s.ranks.getD r' []).length
    · rw [if_pos h3, if_pos ⟨rfl, h3.1, h2, h3.2⟩]
    · rw [if_neg h3, if_neg fun k => h3 ⟨k.2.1, k.2.2.2⟩]
  · rw [if_neg h, if_neg fun k => h ⟨k.1, k.2.2.1⟩]

theorem getL_setL_ne (s : St) {r l r' l' : Nat} (x : LState) (h : ¬ (r' = r ∧ l' = l)) :
    getL (setL s r l x) r' l' = getL s r' l' := by
  rw [getL_setL, if_neg fun k => h ⟨k.1, k.2.1⟩]

theorem getL_setL_cases (s : St) (r l : Nat) (x : LState) (r' l' : Nat) :
    (getL (setL s r l x) r' l' = x ∧ r' = r ∧ l' = l) ∨ getL (setL s r l x) r' l' = getL s r' l' := by
  rw [getL_setL]
  split
  · rename_i h; exact .inl ⟨rfl, h.1, h.2.1⟩
  · exact .inr rfl

theorem setL_getL (s : St) (r l : Nat) : setL s r l (getL s r l) = s := by
  have : s.ranks.set r ((s.ranks.getD r []).set l (getL s r l)) = s.ranks := by
    unfold getL
    rw [List.getD_eq_getElem?_getD, List.getD_eq_getElem?_getD]
    by_cases hr : r < s.ranks.length
    · rw [List.getElem?_eq_getElem hr, Option.getD_some]
      by_cases hl : l < s.ranks[r].length
      · rw [List.getElem?_eq_getElem hl, Option.getD_some, List.set_getElem_self, List.set_getElem_self]
      · rw [List.set_eq_of_length_le (Nat.le_of_not_lt hl), List.set_getElem_self]
    · exact List.set_eq_of_length_le (Nat.le_of_not_lt hr)
  unfold setL; rw [this]

theorem length_row_setL (s : St) (r l : Nat) (x : LState) (r' : Nat) :
    ((setL s r l x).ranks.getD r' []).length = (s.ranks.getD r' []).length := by
  show ((s.ranks.set r _).getD r' []).length = _
  rw [getD_set]
  split
  · rename_i h; rw [List.length_set, h.1]
  · rfl

theorem InR_setL (s : St) (r l : Nat) (x : LState) (r' l' : Nat) : InR (setL s r l x) r' l' ↔ InR s r' l' := by
  unfold InR
  rw [length_row_setL]
  show r' < (s.ranks.set r _).length ∧ _ ↔ _
  rw [List.length_set]

theorem getL_oob (s : St) (r l : Nat) (h : s.ranks.length ≤ r) : getL s r l = {} := by
  simp [getL, List.getElem?_eq_none h]

theorem getD_map_map (rk : List (List LState)) (G : LState → LState) (hG : G {} = {}) (r l : Nat) :
    ((rk.map fun ls => ls.map G).getD r []).getD l {} = G ((rk.getD r []).getD l {}) := by
  have e := getD_map_default G (rk.getD r []) l {}
  rw [hG] at e
  exact (congrArg (·.getD l {}) (getD_map_default (fun ls => ls.map G) rk r [])).trans e

theorem getD_replicate_empty (n m r l : Nat) :
    ((List.replicate n (List.replicate m ({} : LState))).getD r []).getD l {} = {} := by
  simp only [List.getD, List.getElem?_replicate]
  split
  · exact getD_replicate_self ..
  · rfl

theorem getL_init (c : Cfg) (h : Hyper) (r l : Nat) : getL (St.init c h) r l = {} :=
  getD_replicate_empty ..

theorem getL_of_ranks {s t : St} (e : t.ranks = s.ranks) (r l : Nat) : getL t r l = getL s r l := by
  unfold getL; rw [e]

theorem getL_map {s t : St} (G : LState → LState) (hG : G {} = {}) (e : t.ranks = s.ranks.map fun ls => ls.map G)
    (r l : Nat) : getL t r l = G (getL s r l) := by
  unfold getL; rw [e]; exact getD_map_map _ G hG r l

inductive Fld where
  | aFactor | gFactor | qa | da | qg | dg | dgda | aInv | gInv | grad
deriving DecidableEq

def LState.get (x : LState) : Fld → Option Slot
  | .aFactor => x.aFactor | .gFactor => x.gFactor | .qa => x.qa | .da => x.da | .qg => x.qg
  | .dg => x.dg | .dgda => x.dgda | .aInv => x.aInv | .gInv => x.gInv | .grad => x.grad

def LState.set (x : LState) (f : Fld) (o : Option Slot) : LState :=
  match f with
  | .aFactor => { x with aFactor := o } | .gFactor => { x with gFactor := o } | .qa => { x with qa := o }
  | .da => { x with da := o } | .qg => { x with qg := o } | .dg => { x with dg := o }
  | .dgda => { x with dgda := o } | .aInv => { x with aInv := o } | .gInv => { x with gInv := o }
  | .grad => { x with grad := o }

structure Shape (c : Cfg) (s : St) : Prop where
  len : s.ranks.length = c.world
  row : ∀ r, r < c.world → (s.ranks.getD r []).length = c.layers.length

theorem Shape.of_ranks {c s s'} (h : Shape c s) (e : s'.ranks = s.ranks) : Shape c s' :=
  ⟨e ▸ h.len, e ▸ h.row⟩

theorem Shape.inR {c s} (h : Shape c s) {r l : Nat} (hr : r < c.world) (hl : l < c.layers.length) : InR s r l :=
  ⟨h.len ▸ hr, h.row r hr ▸ hl⟩

theorem Shape.init (c : Cfg) (h : Hyper) : Shape c (St.init c h) := by
  refine ⟨by simp [St.init], fun r hr => ?_⟩
  simp [St.init, hr]

theorem Shape.setL {c s} (h : Shape c s) (r l x) : Shape c (setL s r l x) :=
  ⟨(List.length_set ..).trans h.len, fun r' hr' => (length_row_setL ..).trans (h.row r' hr')⟩

theorem getL_setL_same {c s} (h : Shape c s) {r l : Nat} (hr : r < c.world) (hl : l < c.layers.length)
    (x : LState) : getL (setL s r l x) r l = x := by
  rw [getL_setL, if_pos ⟨rfl, rfl, h.inR hr hl⟩]

theorem Shape.map {c s s'} (h : Shape c s) (G : LState → LState) (e : s'.ranks = s.ranks.map fun ls => ls.map G) :
    Shape c s' := by
  refine ⟨by rw [e, List.length_map, h.len], fun r hr => ?_⟩
  have hr' : r < s.ranks.length := h.len ▸ hr
  have := h.row r hr
  simp only [e, List.getD_eq_getElem?_getD, List.getElem?_map, List.getElem?_eq_getElem hr', Option.map_some,
    Option.getD_some, List.length_map] at this ⊢
  exact this

theorem fail_eq (s : St) (r : Nat) (w : String) :
    fail s r w = s ∨ fail s r w = { s with err := some (r, w) } := by
  unfold fail; split
  · exact .inl rfl
  · exact .inr rfl

@[simp] theorem fail_script (s : St) (r : Nat) (w : String) : (fail s r w).script = s.script := by
  rcases fail_eq s r w with e | e <;> rw [e]
@[simp] theorem fail_nIssued (s : St) (r : Nat) (w : String) : (fail s r w).nIssued = s.nIssued := by
  rcases fail_eq s r w with e | e <;> rw [e]
@[simp] theorem fail_ranks (s : St) (r : Nat) (w : String) : (fail s r w).ranks = s.ranks := by
  rcases fail_eq s r w with e | e <;> rw [e]
@[simp] theorem fail_bucket (s : St) (r : Nat) (w : String) : (fail s r w).bucket = s.bucket := by
  rcases fail_eq s r w with e | e <;> rw [e]
@[simp] theorem fail_steps (s : St) (r : Nat) (w : String) : (fail s r w).steps = s.steps := by
  rcases fail_eq s r w with e | e <;> rw [e]
@[simp] theorem fail_mini (s : St) (r : Nat) (w : String) : (fail s r w).mini = s.mini := by
  rcases fail_eq s r w with e | e <;> rw [e]
@[simp] theorem fail_hyper (s : St) (r : Nat) (w : String) : (fail s r w).hyper = s.hyper := by
  rcases fail_eq s r w with e | e <;> rw [e]
@[simp] theorem fail_nextReq (s : St) (r : Nat) (w : String) : (fail s r w).nextReq = s.nextReq := by
  rcases fail_eq s r w with e | e <;> rw [e]
@[simp] theorem getL_fail (s : St) (r : Nat) (w : String) (r' l' : Nat) : getL (fail s r w) r' l' = getL s r' l' := by
  simp only [getL, fail_ranks]

theorem fail_err (s : St) (r : Nat) (w : String) : (fail s r w).err ≠ none := by
  unfold fail; split
  · rename_i h; rw [h]; simp
  · simp

end KV.Precond

namespace KV.PI
open KV.Precond

/-- the slot rewrite of `flushBucket` -/
def flushFix (b : List BItem) (id : Nat) (sl : Option Slot) : Option Slot := sl.map fun x =>
  match x.pend with
  | .queued q => if b.any (·.req == q) then { x with pend := .issued id } else x
  | _ => x

end KV.PI

namespace KV.Precond
open KV.PI (flushFix)

theorem flushBucket_eq (c : Cfg) (s : St) : flushBucket c s =
    if s.bucket.isEmpty then s else
    { (issue s (worldRanks c) { kind := .allreduce, elems := (s.bucket.map (·.elems)).sum,
                                esize := c.fe, root := 0 }).1 with
      bucket := [],
      ranks := s.ranks.map fun ls => ls.map fun x =>
        { x with aFactor := flushFix s.bucket s.nIssued x.aFactor,
                 gFactor := flushFix s.bucket s.nIssued x.gFactor } } := rfl

theorem flushBucket_nil (c : Cfg) (s : St) (h : s.bucket = []) : flushBucket c s = s := by
  rw [flushBucket_eq, h]; rfl

@[simp] theorem flushFix_val (b id o) : (flushFix b id o).map (·.val) = o.map (·.val) := by
  rcases o with _ | ⟨v, _ | _ | q⟩ <;> try rfl
  simp only [flushFix, Option.map_some]; split <;> rfl

@[simp] theorem flushFix_isSome (b id o) : (flushFix b id o).isSome = o.isSome := by
  cases o <;> rfl

def flushActs (c : Cfg) (b : List BItem) : List GAct :=
  if b.isEmpty then [] else
    [.issue (worldRanks c) { kind := .allreduce, elems := (b.map (·.elems)).sum, esize := c.fe, root := 0 }]

theorem flushBucket_script (c : Cfg) (s : St) : (flushBucket c s).script = flushActs c s.bucket ++ s.script := by
  rw [flushBucket_eq, flushActs]
  split <;> rfl

theorem flushBucket_bucket (c : Cfg) (s : St) : (flushBucket c s).bucket = [] := by
  rw [flushBucket_eq]
  split
  · rename_i h; exact List.isEmpty_iff.mp h
  · rfl

theorem flushBucket_nextReq (c : Cfg) (s : St) : (flushBucket c s).nextReq = s.nextReq := by
  rw [flushBucket_eq]
  split <;> rfl

end KV.Precond
