/-
Insertion-ordered association lists (Python dicts).  The model has two copies of the same pair of
functions, `assocGet?` / `assocSet` (Model/Basic.lean, keys `String`) and `Comm.lookupB` / `Comm.setB`
(Model/Comm.lean, keys `List Nat`).  The facts are proved once, for `AL.get` / `AL.set` over any key type,
and the four model functions are shown to be instances (`assocGet?_eq` … `setB_eq`).
-/
import KfacVerif.Model.Comm

namespace KV.AL

variable {κ β : Type} [BEq κ] [LawfulBEq κ]

def get (k : κ) : List (κ × β) → Option β
  | [] => none
  | (k', v) :: t => if k' == k then some v else get k t

def set (k : κ) (v : β) : List (κ × β) → List (κ × β)
  | [] => [(k, v)]
  | (k', v') :: t => if k' == k then (k', v) :: t else (k', v') :: set k v t

theorem mem_of_get {k : κ} {v : β} {t : List (κ × β)} (h : get k t = some v) : (k, v) ∈ t := by
  induction t with
  | nil => exact nomatch h
  | cons p t ih =>
    by_cases hk : (p.1 == k) = true
    · rw [get, if_pos hk] at h
      cases h
      exact eq_of_beq hk ▸ List.mem_cons_self
    · rw [get, if_neg hk] at h
      exact List.mem_cons_of_mem _ (ih h)

theorem get_isSome {k : κ} {t : List (κ × β)} (h : k ∈ t.map (·.1)) : ∃ v, get k t = some v := by
  induction t with
  | nil => exact nomatch h
  | cons p t ih =>
    by_cases hk : (p.1 == k) = true
    · exact ⟨p.2, by rw [get, if_pos hk]⟩
    · rw [get, if_neg hk]
      exact ih ((List.mem_cons.1 h).resolve_left fun e => hk (beq_iff_eq.2 e.symm))

theorem get_of_mem_nodup {t : List (κ × β)} (hnd : (t.map (·.1)).Nodup) {x} (hx : x ∈ t) :
    get x.1 t = some x.2 := by
  induction t with
  | nil => exact nomatch hx
  | cons p t ih =>
    rw [List.map_cons, List.nodup_cons] at hnd
    rcases List.mem_cons.1 hx with rfl | hx'
    · rw [get, if_pos (beq_self_eq_true _)]
    · have : ¬ (p.1 == x.1) = true := fun e => hnd.1 (List.mem_map.2 ⟨x, hx', (eq_of_beq e).symm⟩)
      rw [get, if_neg this, ih hnd.2 hx']

theorem get_map {γ : Type} (k : κ) (F : κ → β → γ) (t : List (κ × β)) :
    get k (t.map fun x => (x.1, F x.1 x.2)) = (get k t).map (F k) := by
  induction t with
  | nil => rfl
  | cons p t ih =>
    by_cases h : (p.1 == k) = true
    · rw [List.map_cons, get, get, if_pos h, if_pos h, eq_of_beq h]; rfl
    · rw [List.map_cons, get, get, if_neg h, if_neg h, ih]

theorem ext {t t' : List (κ × β)} (h : t.map (·.1) = t'.map (·.1)) (hnd : (t.map (·.1)).Nodup)
    (he : ∀ k ∈ t.map (·.1), get k t = get k t') : t = t' := by
  induction t generalizing t' with
  | nil => exact (List.map_eq_nil_iff.1 h.symm).symm
  | cons p t ih =>
    obtain ⟨k, v⟩ := p
    cases t' with
    | nil => exact nomatch h
    | cons p' t' =>
      obtain ⟨k', v'⟩ := p'
      obtain ⟨rfl, ht⟩ := List.cons.inj h
      rw [List.map_cons, List.nodup_cons] at hnd
      have hv := he k List.mem_cons_self
      rw [get, get, if_pos (beq_self_eq_true _), if_pos (beq_self_eq_true _)] at hv
      cases hv
      rw [ih ht hnd.2 fun x hx => ?_]
      have hkx : ¬ (k == x) = true := fun e => hnd.1 (eq_of_beq e ▸ hx)
      have := he x (List.mem_cons_of_mem _ hx)
      rwa [get, get, if_neg hkx, if_neg hkx] at this

theorem get_set_self (k : κ) (v : β) (t : List (κ × β)) : get k (set k v t) = some v := by
  induction t with
  | nil => exact if_pos (beq_self_eq_true k)
  | cons p t ih =>
    by_cases h : (p.1 == k) = true
    · simp only [set, if_pos h, get]
    · simp only [set, if_neg h, get, ih]

theorem get_set_ne {k m : κ} (v : β) (hm : m ≠ k) (t : List (κ × β)) : get m (set k v t) = get m t := by
  induction t with
  | nil => exact if_neg fun e => hm (eq_of_beq e).symm
  | cons p t ih =>
    by_cases h : (p.1 == k) = true
    · have : ¬ (p.1 == m) = true := fun e => hm ((eq_of_beq e).symm.trans (eq_of_beq h))
      simp only [set, if_pos h, get, if_neg this]
    · simp only [set, if_neg h, get, ih]

omit [LawfulBEq κ] in
theorem set_of_get_none {k : κ} (v : β) {t : List (κ × β)} (h : get k t = none) : set k v t = t ++ [(k, v)] := by
  induction t with
  | nil => rfl
  | cons p t ih =>
    by_cases hk : (p.1 == k) = true
    · rw [get, if_pos hk] at h; cases h
    · rw [get, if_neg hk] at h
      rw [set, if_neg hk, ih h]; rfl

theorem mem_set {k : κ} {v : β} {x : κ × β} {t : List (κ × β)} (h : x ∈ set k v t) : x ∈ t ∨ x = (k, v) := by
  induction t with
  | nil => exact Or.inr (List.mem_singleton.1 h)
  | cons p t ih =>
    by_cases hk : (p.1 == k) = true
    · rw [set, if_pos hk, List.mem_cons] at h
      rcases h with h | h
      · exact Or.inr (h.trans (by rw [eq_of_beq hk]))
      · exact Or.inl (List.mem_cons_of_mem _ h)
    · rw [set, if_neg hk, List.mem_cons] at h
      rcases h with h | h
      · exact Or.inl (h ▸ List.mem_cons_self)
      · exact (ih h).imp_left (List.mem_cons_of_mem _)

/-! ### the keys: `set` overwrites in place, or appends a new key at the end -/

def ins (K : List κ) (k : κ) : List κ := if k ∈ K then K else K ++ [k]

theorem keys_set (k : κ) (v : β) (t : List (κ × β)) : (set k v t).map (·.1) = ins (t.map (·.1)) k := by
  induction t with
  | nil => rfl
  | cons p t ih =>
    by_cases h : (p.1 == k) = true
    · rw [set, if_pos h, List.map_cons, List.map_cons, ins, if_pos (List.mem_cons.2 (.inl (eq_of_beq h).symm))]
    · have hne : ¬ k = p.1 := fun e => h (beq_iff_eq.2 e.symm)
      rw [set, if_neg h, List.map_cons, List.map_cons, ih, ins, ins]
      by_cases hk : k ∈ t.map (·.1)
      · rw [if_pos hk, if_pos (List.mem_cons_of_mem _ hk)]
      · rw [if_neg hk, if_neg fun hc => (List.mem_cons.1 hc).elim hne hk]
        rfl

theorem mem_ins {K : List κ} {k x : κ} : x ∈ ins K k ↔ x ∈ K ∨ x = k := by
  unfold ins
  split
  · exact ⟨Or.inl, fun h => h.elim id (· ▸ ‹_›)⟩
  · simp

theorem nodup_ins {K : List κ} (k : κ) (h : K.Nodup) : (ins K k).Nodup := by
  unfold ins
  split
  · exact h
  · rename_i hk
    exact List.nodup_append.2 ⟨h, List.pairwise_singleton _ _, fun a ha b hb e =>
      hk ((List.mem_singleton.1 hb) ▸ e ▸ ha)⟩

theorem nodup_keys_set {k : κ} {v : β} {t : List (κ × β)} (h : (t.map (·.1)).Nodup) :
    ((set k v t).map (·.1)).Nodup := by
  rw [keys_set]; exact nodup_ins k h

theorem nodup_foldl_ins (ρ : List κ) {K : List κ} (h : K.Nodup) : (ρ.foldl ins K).Nodup :=
  List.foldlRecOn ρ ins h fun _ hK k _ => nodup_ins k hK

theorem mem_foldl_ins (ρ K : List κ) (x : κ) : x ∈ ρ.foldl ins K ↔ x ∈ K ∨ x ∈ ρ := by
  induction ρ generalizing K with
  | nil => simp
  | cons k ρ ih => rw [List.foldl_cons, ih, mem_ins, List.mem_cons, or_assoc]

theorem foldl_ins_of_subset {ρ K : List κ} (h : ∀ x ∈ ρ, x ∈ K) : ρ.foldl ins K = K :=
  List.foldlRecOn (motive := (· = K)) ρ ins rfl fun _ e k hk => by subst e; exact if_pos (h k hk)

theorem foldl_ins_idem (ρ : List κ) : ρ.foldl ins (ρ.foldl ins []) = ρ.foldl ins [] :=
  foldl_ins_of_subset fun x hx => (mem_foldl_ins ρ [] x).2 (.inr hx)

end KV.AL

namespace KV

theorem assocGet?_eq {β} (k : String) (t : List (String × β)) : assocGet? k t = AL.get k t := by
  induction t with
  | nil => rfl
  | cons p t ih => rw [assocGet?, AL.get, ih]

theorem assocSet_eq {β} (k : String) (v : β) (t : List (String × β)) : assocSet k v t = AL.set k v t := by
  induction t with
  | nil => rfl
  | cons p t ih => rw [assocSet, AL.set, ih]

theorem Comm.lookupB_eq (k : Comm.Key) (t : List (Comm.Key × Option Comm.Bucket)) :
    Comm.lookupB k t = AL.get k t := by
  induction t with
  | nil => rfl
  | cons p t ih => rw [Comm.lookupB, AL.get, ih]

theorem Comm.setB_eq (k : Comm.Key) (v : Option Comm.Bucket) (t : List (Comm.Key × Option Comm.Bucket)) :
    Comm.setB k v t = AL.set k v t := by
  induction t with
  | nil => rfl
  | cons p t ih => rw [Comm.setB, AL.set, ih]

end KV
