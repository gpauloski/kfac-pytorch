/-
Confluence of M-SchedVal: a step is "rank `r` fires its head action" (`fire`), two different enabled
steps commute (`fire_comm`), every step shortens one program (`size_step`).  The diamond and Newman's
argument on the size are under `KV.C03.diamond` and `KV.C03.every_interleaving_same_result`.
-/
import KfacVerif.Model.SchedVal
import KfacVerif.Lemmas.RangeSum

namespace KV.SchedV

variable {σ β : Type}

theorem issueIds_cons (a : Act σ β) (t : List (Act σ β)) :
    issueIds (a :: t) = issueIds [a] ++ issueIds t := by
  cases a <;> rfl

def en (S : Sys β) (s : St σ β) : Act σ β → Prop
  | .wait i _ => complete S s i
  | _ => True

def newSt (S : Sys β) (s : St σ β) (r : Nat) : Act σ β → σ
  | .issue _ _ => s.st r
  | .wait i g => g (s.st r) (S.combine i (view S s i))
  | .loc h => h (s.st r)

def newPay (pay : Nat → Nat → Option β) (r : Nat) (x : σ) : Act σ β → Nat → Nat → Option β
  | .issue i f => fun j q => if j = i ∧ q = r then some (f x) else pay j q
  | _ => pay

def fire (S : Sys β) (s : St σ β) (r : Nat) (a : Act σ β) (t : List (Act σ β)) : St σ β :=
  { rem := fun q => if q = r then t else s.rem q,
    st := fun q => if q = r then newSt S s r a else s.st q,
    pay := newPay s.pay r (s.st r) a }

theorem ite_self_fun (f : Nat → σ) (r : Nat) : (fun q => if q = r then f r else f q) = f := by
  funext q; by_cases h : q = r <;> simp [h]

theorem ite_comm_fun {α : Type} (f : Nat → α) {r1 r2 : Nat} (hne : r1 ≠ r2) (a b : α) :
    (fun q => if q = r2 then b else if q = r1 then a else f q)
      = fun q => if q = r1 then a else if q = r2 then b else f q := by
  funext q
  by_cases h1 : q = r1
  · rw [if_pos h1, if_neg fun h2 => hne (h1.symm.trans h2), if_pos h1]
  · rw [if_neg h1, if_neg h1]

theorem Step.inv {S : Sys β} {s s' : St σ β} (h : Step S s s') :
    ∃ r a t, s.rem r = a :: t ∧ en S s a ∧ s' = fire S s r a t := by
  cases h with
  | issue r i f t h =>
    refine ⟨r, .issue i f, t, h, trivial, ?_⟩
    simp only [fire, newSt, newPay, ite_self_fun]
  | wait r i g t h hc => exact ⟨r, .wait i g, t, h, hc, rfl⟩
  | loc r hf t h => exact ⟨r, .loc hf, t, h, trivial, rfl⟩

theorem Step.of_fire {S : Sys β} {s : St σ β} {r : Nat} {a : Act σ β} {t : List (Act σ β)}
    (h : s.rem r = a :: t) (e : en S s a) : Step S s (fire S s r a t) := by
  cases a with
  | issue i f =>
    have := Step.issue (S := S) s r i f t h
    simpa only [fire, newSt, newPay, ite_self_fun] using this
  | wait i g => exact Step.wait s r i g t h e
  | loc hf => exact Step.loc s r hf t h

theorem rem_fire_ne (S : Sys β) (s : St σ β) {r q : Nat} (a : Act σ β) (t : List (Act σ β))
    (h : q ≠ r) : (fire S s r a t).rem q = s.rem q := by
  simp [fire, h]

theorem rem_fire_self (S : Sys β) (s : St σ β) (r : Nat) (a : Act σ β) (t : List (Act σ β)) :
    (fire S s r a t).rem r = t := by
  simp [fire]

theorem st_fire_ne (S : Sys β) (s : St σ β) {r q : Nat} (a : Act σ β) (t : List (Act σ β))
    (h : q ≠ r) : (fire S s r a t).st q = s.st q := by
  simp [fire, h]

theorem pay_fire (S : Sys β) (s : St σ β) (r : Nat) (a : Act σ β) (t : List (Act σ β)) {i q : Nat}
    (h : ¬ (i ∈ issueIds [a] ∧ q = r)) : (fire S s r a t).pay i q = s.pay i q := by
  cases a with
  | issue i0 f => exact if_neg fun (hc : i = i0 ∧ q = r) => h ⟨hc.1 ▸ List.mem_singleton_self _, hc.2⟩
  | wait i0 g => rfl
  | loc hf => rfl

theorem disciplined_fire (S : Sys β) {s : St σ β} (hd : Disciplined S s) {r : Nat} {a : Act σ β}
    {t : List (Act σ β)} (h : s.rem r = a :: t) : Disciplined S (fire S s r a t) := by
  have nd := hd.nodup r
  rw [h, issueIds_cons] at nd
  have sub : ∀ q i, i ∈ issueIds ((fire S s r a t).rem q) → i ∈ issueIds (s.rem q) := by
    intro q i hi
    by_cases hq : q = r
    · subst hq; rw [rem_fire_self] at hi; rw [h, issueIds_cons]; exact List.mem_append_right _ hi
    · rwa [rem_fire_ne S s a t hq] at hi
  refine ⟨fun q i hi => hd.member q i (sub q i hi), fun q => ?_, fun q i hi => ?_⟩
  · by_cases hq : q = r
    · subst hq; rw [rem_fire_self]; exact (List.nodup_append.1 nd).2.1
    · rw [rem_fire_ne S s a t hq]; exact hd.nodup q
  · rw [pay_fire S s r a t fun hc => ?_]
    · exact hd.fresh q i (sub q i hi)
    · -- what `a` issues is not issued again by the tail
      obtain ⟨h1, rfl⟩ := hc
      rw [rem_fire_self] at hi
      exact (List.nodup_append.1 nd).2.2 i h1 i hi rfl

theorem complete_fire (S : Sys β) (s : St σ β) (r : Nat) (a : Act σ β) (t : List (Act σ β))
    {i : Nat} (hc : complete S s i) : complete S (fire S s r a t) i := by
  intro q hq
  have := hc q hq
  cases a with
  | issue i0 f =>
    show (if i = i0 ∧ q = r then some (f (s.st r)) else s.pay i q).isSome = true
    by_cases h : i = i0 ∧ q = r
    · simp [h]
    · simp [h, this]
  | wait i0 g => exact this
  | loc hf => exact this

theorem en_fire (S : Sys β) (s : St σ β) (r : Nat) (a : Act σ β) (t : List (Act σ β))
    {a' : Act σ β} (e : en S s a') : en S (fire S s r a t) a' := by
  cases a' with
  | issue i f => trivial
  | wait i g => exact complete_fire S s r a t e
  | loc hf => trivial

theorem view_fire (S : Sys β) {s : St σ β} (hd : Disciplined S s) {r : Nat} {a : Act σ β}
    {t : List (Act σ β)} (h : s.rem r = a :: t) {i : Nat} (hc : complete S s i) :
    view S (fire S s r a t) i = view S s i := by
  funext q
  show (if q ∈ S.members i then (fire S s r a t).pay i q else none) = (if q ∈ S.members i then s.pay i q else none)
  by_cases hq : q ∈ S.members i
  · rw [if_pos hq, if_pos hq, pay_fire S s r a t fun hx => ?_]
    -- a complete event has `r`'s payload, so `r` is not about to issue it
    have h1 := hc q hq
    rw [hx.2, hd.fresh r i (by rw [h, issueIds_cons]; exact List.mem_append_left _ hx.1)] at h1
    cases h1
  · rw [if_neg hq, if_neg hq]

theorem newSt_fire (S : Sys β) {s : St σ β} (hd : Disciplined S s) {r1 r2 : Nat} (hne : r1 ≠ r2)
    {a1 a2 : Act σ β} {t1 : List (Act σ β)} (h1 : s.rem r1 = a1 :: t1) (e2 : en S s a2) :
    newSt S (fire S s r1 a1 t1) r2 a2 = newSt S s r2 a2 := by
  have hst : (fire S s r1 a1 t1).st r2 = s.st r2 := st_fire_ne S s a1 t1 hne.symm
  cases a2 with
  | issue i f => exact hst
  | wait i g =>
    show g ((fire S s r1 a1 t1).st r2) (S.combine i (view S (fire S s r1 a1 t1) i)) = _
    rw [hst, view_fire S hd h1 e2]; rfl
  | loc hf => show hf ((fire S s r1 a1 t1).st r2) = _; rw [hst]; rfl

theorem newPay_comm (pay : Nat → Nat → Option β) {r1 r2 : Nat} (hne : r1 ≠ r2) (x1 x2 : σ)
    (a1 a2 : Act σ β) :
    newPay (newPay pay r1 x1 a1) r2 x2 a2 = newPay (newPay pay r2 x2 a2) r1 x1 a1 := by
  cases a1 with
  | issue i1 f1 =>
    cases a2 with
    | issue i2 f2 =>
      funext j q
      show (if j = i2 ∧ q = r2 then some (f2 x2)
              else (if j = i1 ∧ q = r1 then some (f1 x1) else pay j q))
         = (if j = i1 ∧ q = r1 then some (f1 x1)
              else (if j = i2 ∧ q = r2 then some (f2 x2) else pay j q))
      by_cases hA : j = i2 ∧ q = r2
      · have hB : ¬ (j = i1 ∧ q = r1) := fun hB => hne (hB.2.symm.trans hA.2)
        rw [if_pos hA, if_neg hB, if_pos hA]
      · rw [if_neg hA, if_neg hA]
    | wait i2 g2 => rfl
    | loc hf2 => rfl
  | wait i1 g1 => rfl
  | loc hf1 => rfl

theorem fire_comm (S : Sys β) {s : St σ β} (hd : Disciplined S s) {r1 r2 : Nat} (hne : r1 ≠ r2)
    {a1 a2 : Act σ β} {t1 t2 : List (Act σ β)}
    (h1 : s.rem r1 = a1 :: t1) (h2 : s.rem r2 = a2 :: t2) (e1 : en S s a1) (e2 : en S s a2) :
    fire S (fire S s r1 a1 t1) r2 a2 t2 = fire S (fire S s r2 a2 t2) r1 a1 t1 := by
  have n1 := newSt_fire S hd hne h1 e2
  have n2 := newSt_fire S hd hne.symm h2 e1
  have np : newPay (fire S s r1 a1 t1).pay r2 ((fire S s r1 a1 t1).st r2) a2
      = newPay (fire S s r2 a2 t2).pay r1 ((fire S s r2 a2 t2).st r1) a1 := by
    rw [st_fire_ne S s a1 t1 hne.symm, st_fire_ne S s a2 t2 hne]
    exact newPay_comm s.pay hne _ _ a1 a2
  rw [St.mk.injEq]
  refine ⟨ite_comm_fun s.rem hne t1 t2, ?_, np⟩
  show (fun q => if q = r2 then newSt S (fire S s r1 a1 t1) r2 a2
          else if q = r1 then newSt S s r1 a1 else s.st q)
     = fun q => if q = r1 then newSt S (fire S s r2 a2 t2) r1 a1
          else if q = r2 then newSt S s r2 a2 else s.st q
  rw [n1, n2]
  exact ite_comm_fun s.st hne _ _

theorem Reach.head {S : Sys β} {s a t : St σ β} (h : Step S s a) (hr : Reach S a t) :
    Reach S s t := by
  induction hr with
  | refl => exact Reach.tail (Reach.refl s) h
  | tail _ st ih => exact Reach.tail ih st

theorem Reach.cases_head {S : Sys β} {s t : St σ β} (hr : Reach S s t) :
    s = t ∨ ∃ a, Step S s a ∧ Reach S a t := by
  induction hr with
  | refl => exact Or.inl rfl
  | tail _ st ih =>
    rcases ih with rfl | ⟨a, sa, ar⟩
    · exact Or.inr ⟨_, st, Reach.refl _⟩
    · exact Or.inr ⟨a, sa, Reach.tail ar st⟩

/-- remaining work of the ranks below `n` (as `KV.C03.size` for M-Sched) -/
def size (s : St σ β) (n : Nat) : Nat := ((List.range n).map fun r => (s.rem r).length).sum

def Idle (n : Nat) (s : St σ β) : Prop := ∀ r, n ≤ r → s.rem r = []

theorem idle_lt {n : Nat} {s : St σ β} (hi : Idle n s) {r : Nat} {a : Act σ β}
    {t : List (Act σ β)} (h1 : s.rem r = a :: t) : r < n := by
  apply Nat.lt_of_not_le
  intro h
  rw [hi r h] at h1
  cases h1

theorem idle_step {S : Sys β} {n : Nat} {s s' : St σ β} (hi : Idle n s) (h : Step S s s') :
    Idle n s' := by
  obtain ⟨r, a, t, h1, _, rfl⟩ := h.inv
  intro q hq
  rw [rem_fire_ne S s a t (Nat.ne_of_gt (Nat.lt_of_lt_of_le (idle_lt hi h1) hq))]
  exact hi q hq

theorem size_step {S : Sys β} {n : Nat} {s s' : St σ β} (hi : Idle n s) (h : Step S s s') :
    size s' n < size s n := by
  obtain ⟨r, a, t, h1, _, rfl⟩ := h.inv
  exact Nat.lt_of_succ_le <| Nat.le_of_eq <| Sched2.sum_map_range_update (fun q => (s.rem q).length)
    (fun q => ((fire S s r a t).rem q).length) n r (idle_lt hi h1)
    (fun q hq => by rw [rem_fire_ne S s a t hq]) (by rw [rem_fire_self, h1]; rfl)

theorem exists_terminal (S : Sys β) (n : Nat) :
    ∀ k (c : St σ β), size c n = k → Idle n c → ∃ w, Reach S c w ∧ Terminal S w := by
  intro k
  induction k using Nat.strongRecOn with
  | ind k ih =>
    intro c hk hi
    by_cases hs : ∃ s', Step S c s'
    · obtain ⟨s', hs'⟩ := hs
      obtain ⟨w, hw, tw⟩ := ih (size s' n) (hk ▸ size_step hi hs') s' rfl (idle_step hi hs')
      exact ⟨w, Reach.head hs' hw, tw⟩
    · exact ⟨c, Reach.refl c, hs⟩

end KV.SchedV
