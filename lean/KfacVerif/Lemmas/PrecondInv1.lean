/-
Invariants of the M-Precond state machine, part 1: the invariant `Good` of the emitted script and
what keeps it: the primitives (`emit`, `fail`, `setL`, `issue`), the run of a cell program
(`GoodAt.run`), the places where collectives are issued (`bcast`, `putFac`, `flushBucket`).
Core Lean only.
-/
import KfacVerif.Lemmas.SchedBase
import KfacVerif.Lemmas.PrecondOps

namespace KV.PI
open KV KV.Precond
open KV.Sched2 (eventsOf eventsOf_append wfAux wf Events)
open KV.HR (rdVal rdSt)
open KV.BucketLink (putFac)

/-- stall-tolerant script check (same equations as `KV.C03.wfAuxS`) -/
def wfS (n : Nat) : List (List Nat) → List GAct → Bool
  | _, [] => true
  | seen, .issue m d :: t =>
    m.all (· < n) && decide (2 ≤ m.length) &&
      (match d.kind with | .broadcast => m.contains d.root | .allreduce => true) &&
      wfS n (seen ++ [m]) t
  | seen, .wait r id :: t => decide (id < seen.length) && (seen.getD id []).contains r && wfS n seen t
  | seen, .stall _ _ :: t => wfS n seen t

def actOK (n : Nat) (ev : Events) : GAct → Bool
  | .issue m d => m.all (· < n) && decide (2 ≤ m.length) &&
      (match d.kind with | .broadcast => m.contains d.root | .allreduce => true)
  | .wait r id => decide (id < ev.length) && (ev.getD id []).contains r
  | .stall _ _ => true

def isStall : GAct → Bool
  | .stall _ _ => true
  | _ => false

theorem wfS_append (n : Nat) (seen : Events) (a b : List GAct) :
    wfS n seen (a ++ b) = (wfS n seen a && wfS n (seen ++ eventsOf a) b) := by
  induction a generalizing seen with
  | nil => simp [wfS, eventsOf]
  | cons x t ih =>
    cases x with
    | issue m d => simp [wfS, eventsOf, ih, Bool.and_assoc]
    | wait r id => simp [wfS, eventsOf, ih, Bool.and_assoc]
    | stall r q => simp [wfS, eventsOf, ih]

theorem wfS_single (n : Nat) (seen : Events) (a : GAct) : wfS n seen [a] = actOK n seen a := by
  cases a <;> simp [wfS, actOK]

theorem wfAux_eq (n : Nat) (seen : Events) (acts : List GAct) :
    wfAux n seen acts = (wfS n seen acts && acts.all (fun a => !isStall a)) := by
  induction acts generalizing seen with
  | nil => simp [wfAux, wfS]
  | cons x t ih =>
    cases x with
    | issue m d =>
      simp only [wfAux, wfS, ih, Bool.and_assoc]
      rfl
    | wait r id =>
      simp only [wfAux, wfS, ih, List.all_cons, isStall, Bool.not_false, Bool.true_and, Bool.and_assoc]
    | stall r q => simp [wfAux, isStall]

def evs (s : St) : Events := eventsOf s.acts

def stallFree (s : St) : Prop := ∀ a ∈ s.script, isStall a = false

/-- a slot waiting for issue `id` on rank `r` refers to an issue of which `r` is a member;
    in strict mode no slot is queued -/
def SlotOK (strict : Bool) (ev : Events) (r : Nat) : Option Slot → Prop
  | some ⟨_, .issued id⟩ => id < ev.length ∧ r ∈ ev.getD id []
  | some ⟨_, .queued _⟩ => strict = false
  | _ => True

theorem SlotOK.none {st ev r} : SlotOK st ev r none := trivial
theorem SlotOK.ready {st ev r v} : SlotOK st ev r (some ⟨v, .ready⟩) := trivial
theorem SlotOK.queued {ev r v q} : SlotOK false ev r (some ⟨v, .queued q⟩) := rfl

theorem SlotOK.newest {st ev m r v} (hr : r ∈ m) : SlotOK st (ev ++ [m]) r (some ⟨v, .issued ev.length⟩) :=
  ⟨by simp, (getD_append_len ev m []).symm ▸ hr⟩

theorem SlotOK.mono {st ev r o} (t : Events) (h : SlotOK st ev r o) : SlotOK st (ev ++ t) r o := by
  match o, h with
  | some ⟨_, .issued id⟩, h =>
    exact ⟨Nat.lt_of_lt_of_le h.1 (by simp), (getD_append_lt ev t [] _ h.1).symm ▸ h.2⟩
  | some ⟨_, .queued _⟩, h => exact h
  | some ⟨_, .ready⟩, _ => trivial
  | .none, _ => trivial

theorem SlotOK.weaken {st ev r o} (h : SlotOK true ev r o) : SlotOK st ev r o := by
  match o, h with
  | some ⟨_, .issued id⟩, h => exact h
  | some ⟨_, .ready⟩, _ => trivial
  | .none, _ => trivial

theorem SlotOK.rdVal {st ev r o} (h : SlotOK st ev r o) : SlotOK st ev r (rdVal o) := by
  match o, h with
  | some ⟨_, .issued _⟩, _ => trivial
  | some ⟨_, .queued _⟩, h => exact h
  | some ⟨_, .ready⟩, _ => trivial
  | .none, _ => trivial

theorem SlotOK.rdIf {st ev r o} {b : Prop} [Decidable b] (h : SlotOK st ev r o) :
    SlotOK st ev r (if b then HR.rdVal o else o) :=
  iteInduction (fun _ => h.rdVal) fun _ => h

theorem SlotOK.rdUnless {st ev r o} {b : Prop} [Decidable b] (h : SlotOK st ev r o) :
    SlotOK st ev r (if b then o else HR.rdVal o) :=
  iteInduction (fun _ => h) fun _ => h.rdVal

structure LOK (st : Bool) (ev : Events) (r : Nat) (x : LState) : Prop where
  aFactor : SlotOK st ev r x.aFactor
  gFactor : SlotOK st ev r x.gFactor
  qa : SlotOK st ev r x.qa
  da : SlotOK st ev r x.da
  qg : SlotOK st ev r x.qg
  dg : SlotOK st ev r x.dg
  dgda : SlotOK st ev r x.dgda
  aInv : SlotOK st ev r x.aInv
  gInv : SlotOK st ev r x.gInv
  grad : SlotOK st ev r x.grad

theorem LOK.get {st ev r x} (h : LOK st ev r x) : ∀ f, SlotOK st ev r (x.get f)
  | .aFactor => h.aFactor | .gFactor => h.gFactor | .qa => h.qa | .da => h.da | .qg => h.qg
  | .dg => h.dg | .dgda => h.dgda | .aInv => h.aInv | .gInv => h.gInv | .grad => h.grad

theorem LOK.set {st ev r x o} (h : LOK st ev r x) (ho : SlotOK st ev r o) : ∀ f, LOK st ev r (x.set f o)
  | .aFactor => { h with aFactor := ho } | .gFactor => { h with gFactor := ho } | .qa => { h with qa := ho }
  | .da => { h with da := ho } | .qg => { h with qg := ho } | .dg => { h with dg := ho }
  | .dgda => { h with dgda := ho } | .aInv => { h with aInv := ho } | .gInv => { h with gInv := ho }
  | .grad => { h with grad := ho }

theorem LOK.setFac {st ev r x o} (isA : Bool) (h : LOK st ev r x) (ho : SlotOK st ev r o) :
    LOK st ev r (if isA then { x with aFactor := o } else { x with gFactor := o }) :=
  iteInduction (fun _ => { h with aFactor := ho }) fun _ => { h with gFactor := ho }

theorem LOK.batch {st ev r x a n b m} (h : LOK st ev r x) :
    LOK st ev r { x with aBatch := a, aCount := n, gBatch := b, gCount := m } :=
  { h with }

theorem LOK.imp {st st' ev ev' r x} (H : ∀ o, SlotOK st ev r o → SlotOK st' ev' r o) (h : LOK st ev r x) :
    LOK st' ev' r x :=
  ⟨H _ h.1, H _ h.2, H _ h.3, H _ h.4, H _ h.5, H _ h.6, H _ h.7, H _ h.8, H _ h.9, H _ h.10⟩

theorem LOK.mono {st ev r x} (t : Events) : LOK st ev r x → LOK st (ev ++ t) r x := LOK.imp fun _ => SlotOK.mono t

theorem LOK.weaken {st ev r x} : LOK true ev r x → LOK st ev r x := LOK.imp fun _ => SlotOK.weaken

theorem LOK.empty {st ev r} : LOK st ev r {} :=
  ⟨trivial, trivial, trivial, trivial, trivial, trivial, trivial, trivial, trivial, trivial⟩

/-- The invariant of the emitted script.  `nIss`: the issue counter is the number of issues in the script, so the id
    a new issue gets is the one its slots name; `bkt`: a bucket is open only in a world of two or more (its flush
    is an all-reduce over the world, and `wfS` wants two members).  `st` = strict: the bucket is empty (`sB`), no
    slot is queued (`SlotOK true` in `lok`) and no stall has been emitted (`sF`); this holds between whole
    iterations, the lax form after any history.  `μ` is the value of the `mini` counters (carried along so that
    every preservation lemma is also a frame lemma for them). -/
structure Good (st : Bool) (c : Cfg) (μ : List Nat) (s : St) : Prop where
  nIss : s.nIssued = (evs s).length
  wfs : wfS c.world [] s.acts = true
  lok : ∀ r l, LOK st (evs s) r (getL s r l)
  shape : s.ranks.length = c.world
  bkt : s.bucket ≠ [] → 2 ≤ c.world
  sB : st = true → s.bucket = []
  sF : st = true → stallFree s
  mini : s.mini = μ

theorem Good.weaken {c μ s} (st : Bool) (h : Good true c μ s) : Good st c μ s :=
  ⟨h.nIss, h.wfs, fun r l => (h.lok r l).weaken, h.shape, h.bkt, fun _ => h.sB rfl, fun _ => h.sF rfl, h.mini⟩

theorem Good.congr {st c s s' μ'} (h : Good st c μ s) (h1 : s'.script = s.script) (h2 : s'.nIssued = s.nIssued)
    (h3 : s'.ranks = s.ranks) (h4 : s'.bucket = s.bucket) (h5 : s'.mini = μ') : Good st c μ' s' := by
  have he : evs s' = evs s := by simp [evs, St.acts, h1]
  refine ⟨?_, ?_, ?_, ?_, ?_, ?_, ?_, h5⟩
  · rw [h2, he]; exact h.nIss
  · simp only [St.acts, h1]; exact h.wfs
  · intro r l; rw [he]; simp only [getL, h3]; exact h.lok r l
  · rw [h3]; exact h.shape
  · rw [h4]; exact h.bkt
  · rw [h4]; exact h.sB
  · intro hs a ha; rw [h1] at ha; exact h.sF hs a ha

theorem Good.setPass {st c s} (h : Good st c μ s) (n : Nat) : Good st c μ { s with pass := n } :=
  h.congr rfl rfl rfl rfl h.mini

theorem Good.setMini {st c μ μ' s m} (h : Good st c μ s) (e : m = μ') : Good st c μ' { s with mini := m } :=
  h.congr rfl rfl rfl rfl e

theorem Good.init (c : Cfg) (h : Hyper) : Good true c (List.replicate c.layers.length 0) (St.init c h) := by
  refine ⟨rfl, rfl, fun r l => ?_, by simp [St.init], by simp [St.init], fun _ => rfl, ?_, rfl⟩
  · rw [getL_init]; exact LOK.empty
  · intro _ a ha; simp [St.init] at ha

theorem Good.setL {st c s} (h : Good st c μ s) {r l : Nat} {x : LState} (hx : LOK st (evs s) r x) :
    Good st c μ (setL s r l x) := by
  refine ⟨h.nIss, h.wfs, fun r' l' => ?_, by simp [Precond.setL, h.shape], h.bkt, h.sB, h.sF, h.mini⟩
  rcases getL_setL_cases s r l x r' l' with ⟨h1, h2, _⟩ | h1
  · rw [h1, h2]; exact hx
  · rw [h1]; exact h.lok r' l'

/-! ### `Good` with the events named

What is known of a slot relative to the events `E` survives the getter reads and the writes of cells,
which change the state but not the events. -/

def GoodAt (st : Bool) (c : Cfg) (μ : List Nat) (E : Events) (s : St) : Prop := Good st c μ s ∧ evs s = E

theorem Good.here {st c μ s} (h : Good st c μ s) : GoodAt st c μ (evs s) s := ⟨h, rfl⟩

theorem Good.failE {st c s E} (h : Good st c μ s) (hE : evs s = E) (r : Nat) (w : String) :
    Good st c μ (Precond.fail s r w) ∧ evs (Precond.fail s r w) = E := by
  rcases fail_eq s r w with e | e <;> rw [e]
  · exact ⟨h, hE⟩
  · exact ⟨h.congr rfl rfl rfl rfl h.mini, hE⟩

theorem Good.act {st c μ s a} {s' : St} (h : Good st c μ s) (hok : actOK c.world (evs s) a = true)
    (hst : st = true → isStall a = false) (h1 : s'.script = a :: s.script)
    (h2 : s'.nIssued = s.nIssued + (eventsOf [a]).length) (h3 : s'.ranks = s.ranks) (h4 : s'.bucket = s.bucket)
    (h5 : s'.mini = s.mini) : GoodAt st c μ (evs s ++ eventsOf [a]) s' := by
  have he : evs s' = evs s ++ eventsOf [a] := by simp [evs, St.acts, h1, eventsOf_append]
  refine ⟨⟨?_, ?_, fun r l => ?_, h3 ▸ h.shape, h4 ▸ h.bkt, h4 ▸ h.sB, fun hs b hb => ?_, h5.trans h.mini⟩, he⟩
  · rw [h2, he, h.nIss, List.length_append]
  · have : s'.acts = s.acts ++ [a] := by simp [St.acts, h1]
    rw [this, wfS_append, h.wfs, wfS_single]
    exact hok
  · rw [he, getL_of_ranks h3]; exact (h.lok r l).mono _
  · rw [h1] at hb
    rcases List.mem_cons.mp hb with rfl | hb
    · exact hst hs
    · exact h.sF hs b hb

section
variable {st : Bool} {c : Cfg} {μ : List Nat} {E : Events} {s : St} {r : Nat}

theorem GoodAt.lok (g : GoodAt st c μ E s) (r l : Nat) : LOK st E r (getL s r l) :=
  g.2 ▸ g.1.lok r l

theorem GoodAt.setL {l x} (g : GoodAt st c μ E s) (hx : LOK st E r x) : GoodAt st c μ E (Precond.setL s r l x) :=
  ⟨g.1.setL (g.2 ▸ hx), g.2⟩

theorem GoodAt.emit {a} (g : GoodAt st c μ E s) (hni : eventsOf [a] = [])
    (hok : actOK c.world E a = true) (hst : st = true → isStall a = false) : GoodAt st c μ E (Precond.emit s a) := by
  obtain ⟨h, rfl⟩ := g
  have g := h.act hok hst (s' := Precond.emit s a) rfl (by rw [hni]; rfl) rfl rfl rfl
  rwa [hni, List.append_nil] at g

/-- the property getter: a wait passes the check, a stall is tolerated unless strict -/
theorem GoodAt.rdSt {sl} (g : GoodAt st c μ E s) (hsl : SlotOK st E r sl) : GoodAt st c μ E (rdSt s r sl) := by
  match sl, hsl with
  | .none, _ | some ⟨_, .ready⟩, _ => exact g
  | some ⟨v, .issued id⟩, hsl =>
    refine g.emit rfl ?_ fun _ => rfl
    show (decide _ && _) = true
    rw [decide_eq_true hsl.1, List.contains_iff_mem.mpr hsl.2]
    rfl
  | some ⟨v, .queued q⟩, hsl => exact g.emit rfl rfl fun h => (by cases h.symm.trans hsl)

theorem GoodAt.reads {x} (g : GoodAt st c μ E s) (hx : LOK st E r x) (fs : List Fld) :
    GoodAt st c μ E (Cell.reads s r x fs) :=
  List.foldlRecOn _ _ g fun _ g f _ => g.rdSt (hx.get f)

/-- a rank runs a cell program: the getters it reads are fields of its cell, which satisfies `LOK`;
    the cell it writes must -/
theorem GoodAt.run {l} {p : Cell.Out} (g : GoodAt st c μ E s) (hp : p.All (LOK st E r)) :
    GoodAt st c μ E (Cell.run s r l p) :=
  match p, hp with
  | .fail rs w, _ => have g := g.reads (g.lok r l) rs; Good.failE g.1 g.2 r w
  | .write rs _, hp => (g.reads (g.lok r l) rs).setL hp

theorem GoodAt.put (g : GoodAt st c μ E s) (rs : List Nat) (l : Nat) (upd : LState → LState)
    (hupd : ∀ r, r ∈ rs → ∀ x, LOK st E r x → LOK st E r (upd x)) :
    GoodAt st c μ E (rs.foldl (fun s r => Precond.setL s r l (upd (getL s r l))) s) :=
  List.foldlRecOn _ _ g fun _ g r hr => g.setL (hupd r hr _ (g.lok r l))

theorem GoodAt.putFac {l isA avg p} (g : GoodAt st c μ E s) (ho : ∀ r, r < c.world → SlotOK st E r (some ⟨avg, p⟩)) :
    GoodAt st c μ E (putFac c l isA avg p s) :=
  g.put _ l (fun x => if isA then { x with aFactor := _ } else { x with gFactor := _ })
    fun r hr _ hx => hx.setFac isA (ho r (mem_worldRanks.mp hr))

end

theorem Good.run {st c μ s r l} {p : Cell.Out} (h : Good st c μ s) (hp : p.All (LOK st (evs s) r)) :
    Good st c μ (Cell.run s r l p) :=
  (h.here.run hp).1

theorem Good.step {st c μ s r l} {p : Nat → LState → Cell.Out} (h : Good st c μ s)
    (hp : ∀ {ev x}, LOK st ev r x → (p r x).All (LOK st ev r)) : Good st c μ (Cell.step p l s r) :=
  h.run (hp (h.lok r l))

theorem Good.steps {st c μ s l} {p : Nat → LState → Cell.Out} (h : Good st c μ s) (rs : List Nat)
    (hp : ∀ {r ev x}, LOK st ev r x → (p r x).All (LOK st ev r)) : Good st c μ (rs.foldl (Cell.step p l) s) :=
  List.foldlRecOn _ _ h fun _ h _ _ => h.step hp

theorem Good.eachCell {α : Type} {st c μ s} {p : α → Nat → LState → Cell.Out} (h : Good st c μ s) (ls : List Nat)
    (as : List α) (hp : ∀ {a r ev x}, LOK st ev r x → (p a r x).All (LOK st ev r)) :
    Good st c μ (eachCell c ls as p s) :=
  List.foldlRecOn _ _ h fun _ h _ _ => List.foldlRecOn _ _ h fun _ h _ _ => List.foldlRecOn _ _ h fun _ h _ _ =>
    h.step hp

theorem Good.mapCells {st c μ s} {g : Nat → Nat → LState → LState} (h : Good st c μ s)
    (hg : ∀ {r l ev x}, LOK st ev r x → LOK st ev r (g r l x)) : Good st c μ (mapCells c g s) :=
  List.foldlRecOn _ _ h fun _ h r _ => List.foldlRecOn _ _ h fun _ h l _ => h.setL (hg (h.lok r l))

theorem Good.issued {st c μ s m} (d : Desc) (h : Good st c μ s) (hm : ∀ x ∈ m, x < c.world) (h2 : 2 ≤ m.length)
    (hroot : d.kind = .broadcast → d.root ∈ m) : GoodAt st c μ (evs s ++ [m]) (issue s m d).1 := by
  refine h.act (a := .issue m d) ?_ (fun _ => rfl) rfl rfl rfl rfl rfl
  have h3 : m.all (· < c.world) = true := by simpa using hm
  rw [actOK, h3]
  cases hk : d.kind with
  | allreduce => simp [h2]
  | broadcast => simp [h2, hroot hk]

theorem Good.issuedWorld {c μ s} (h : Good false c μ s) (hw2 : 2 ≤ c.world) (e n : Nat) :
    GoodAt false c μ (evs s ++ [worldRanks c]) (Precond.issue s (worldRanks c) ⟨.allreduce, e, n, 0⟩).1 :=
  h.issued _ (fun _ => mem_worldRanks.mp) (by simpa [worldRanks] using hw2) (fun hk => by cases hk)

theorem Good.bcast {st c μ s m} {d : Desc} (h : Good st c μ s) (hm : ∀ x ∈ m, x < c.world) (h2 : 2 ≤ m.length)
    (hroot : d.root ∈ m) (l : Nat) (f : Fld) : Good st c μ (bcast s l m d f) :=
  ((h.issued d hm h2 fun _ => hroot).put m l (fun x => x.set f _) fun _ hr _ hx =>
    hx.set (h.nIss ▸ .newest hr) f).1

theorem flushFix_ok {ev : Events} {r : Nat} (b : List BItem) (id : Nat) (o : Option Slot)
    (ho : SlotOK false ev r o) (hid : ∀ v, SlotOK false ev r (some ⟨v, .issued id⟩)) :
    SlotOK false ev r (flushFix b id o) := by
  match o, ho with
  | .none, _ => trivial
  | some ⟨v, .ready⟩, _ => trivial
  | some ⟨v, .issued i⟩, ho => exact ho
  | some ⟨v, .queued q⟩, _ =>
    simp only [flushFix, Option.map_some]
    split
    · exact hid v
    · rfl

theorem Good.flushBucket {st c s} (h : Good st c μ s) : Good st c μ (flushBucket c s) := by
  cases st
  case true => rw [flushBucket_nil c s (h.sB rfl)]; exact h  -- in strict mode the bucket is empty
  rw [flushBucket_eq]
  refine iteInduction (fun _ => h) fun hne => ?_
  obtain ⟨h1, he⟩ := h.issuedWorld (h.bkt (by simpa using hne)) (s.bucket.map (·.elems)).sum c.fe
  refine ⟨h1.nIss, h1.wfs, fun r l => ?_, ?_, by simp, by simp, by simp, h1.mini⟩
  · show LOK false (evs (Precond.issue _ _ _).1) r (getL _ r l)
    rw [he, getL_map (s := s) _ rfl rfl]
    have hl : LOK false (evs s ++ [worldRanks c]) r (getL s r l) := he ▸ h1.lok r l
    by_cases hr : r < c.world
    · have hid (v) : SlotOK false (evs s ++ [worldRanks c]) r (some ⟨v, .issued s.nIssued⟩) :=
        h.nIss ▸ .newest (mem_worldRanks.mpr hr)
      exact { hl with aFactor := flushFix_ok _ _ _ hl.aFactor hid, gFactor := flushFix_ok _ _ _ hl.gFactor hid }
    · rw [getL_oob s r l (by rw [h.shape]; omega)]
      exact LOK.empty
  · show (List.map _ s.ranks).length = c.world
    simp [h.shape]

theorem Good.addBucket {c s} (h : Good false c μ s) (hw2 : 2 ≤ c.world) (b : BItem) (n : Nat) :
    Good false c μ { s with bucket := s.bucket ++ [b], nextReq := n } :=
  ⟨h.nIss, h.wfs, h.lok, h.shape, fun _ => hw2, by simp, by simp, h.mini⟩

end KV.PI
