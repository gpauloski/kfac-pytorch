/-
Every operation of the script machine M-NeoxScript (Model/NeoxScript.lean; the statements are in Props/C11.lean)
executes a list of instructions (`Ins`: append one collective, hand one factor to the communicator, flush it)
that depends on the configuration and the two counters only (`trainPass_eq`, `stepOp_eq`, `saveOp_eq`,
`loadOp_eq`).  A property of runs is proved for the three instructions and lifted through `execs` once; what is
particular to GPT-NeoX (groups, roots) is a statement about the members of the instruction lists
(`trainI_forall`, `iterI_forall`, `precondAllI_forall`).
-/
import KfacVerif.Model.NeoxScript
import KfacVerif.Model.Sched
import KfacVerif.Lemmas.NeoxTopo
import KfacVerif.Lemmas.Bucket

/- decidable equality of communicator states (the model derives it for items and events only):
    lets closed statements about `(run c ops).comm` be settled by `decide +kernel` -/
deriving instance DecidableEq for KV.Comm.Bucket
deriving instance DecidableEq for KV.Comm.CState

namespace KV.C11S
open KV KV.Neox KV.NeoxS KV.C12

/-- `names`: the layer names of a stage are the keys of a dict -/
structure NCfgOK (c : NeoxS.Cfg) : Prop where
  topo : TopoOK c.t
  stages : c.stages.length = c.t.pp
  names : ∀ p, p < c.t.pp → ((c.stages.getD p []).map (·.name)).Nodup

/-- the script in the vocabulary of the generic scheduler (kinds other than broadcast have no root) -/
def toG (a : NAct) : KV.Precond.GAct :=
  .issue a.members { kind := (match a.kind with | .broadcast => .broadcast | _ => .allreduce),
                     elems := a.elems, esize := 0, root := a.root }

/-! ### the script machine as instruction lists -/

inductive Ins where
  | emit (a : NAct)
  | red (g : List Nat) (n : Nat)
  | flush

def exec (c : NeoxS.Cfg) (s : St) : Ins → St
  | .emit a => { s with acts := s.acts ++ [a] }
  | .red g n => reduceFactor c s g n
  | .flush => NeoxS.flush s

def execs (c : NeoxS.Cfg) (s : St) (is : List Ins) : St := is.foldl (exec c) s

variable {c : NeoxS.Cfg}

theorem execs_nil (s : St) : execs c s [] = s := rfl

theorem execs_cons (s : St) (i : Ins) (is : List Ins) : execs c s (i :: is) = execs c (exec c s i) is := rfl

theorem execs_append (s : St) (a b : List Ins) : execs c s (a ++ b) = execs c (execs c s a) b :=
  List.foldl_append

theorem execs_ite (s : St) (b : Bool) (is : List Ins) :
    execs c s (if b then is else []) = if b then execs c s is else s := by
  cases b <;> rfl

theorem foldl_execs {α : Type} {f : St → α → St} {g : α → List Ins} (h : ∀ s x, f s x = execs c s (g x))
    (l : List α) (s : St) : l.foldl f s = execs c s (l.flatMap g) := by
  rw [execs, List.foldl_flatMap]
  exact List.foldl_ext _ _ _ (fun s x _ => h s x)

theorem execs_frame (is : List Ins) (s : St) :
    (execs c s is).steps = s.steps ∧ (execs c s is).mini = s.mini ∧ (execs c s is).kept = s.kept := by
  refine List.foldlRecOn (motive := fun t => t.steps = s.steps ∧ t.mini = s.mini ∧ t.kept = s.kept) is (exec c)
    ⟨rfl, rfl, rfl⟩ (fun t ht i _ => ?_)
  cases i <;> exact ht

def perLayerI (c : NeoxS.Cfg) (g : Nat → Layer → List Ins) : List Ins :=
  (List.range c.t.pp).flatMap fun p => (c.stages.getD p []).reverse.flatMap (g p)

theorem perLayer_eq {f : Nat → St → Layer → St} {g : Nat → Layer → List Ins}
    (h : ∀ p s l, f p s l = execs c s (g p l)) (s : St) :
    (List.range c.t.pp).foldl (fun s p => (c.stages.getD p []).reverse.foldl (f p) s) s = execs c s (perLayerI c g) :=
  foldl_execs (fun s p => foldl_execs (h p) (c.stages.getD p []).reverse s) _ s

theorem perLayerI_forall {M : Ins → Prop} {g : Nat → Layer → List Ins}
    (h : ∀ p < c.t.pp, ∀ l ∈ c.stages.getD p [], ∀ i ∈ g p l, M i) : ∀ i ∈ perLayerI c g, M i :=
  List.forall_mem_flatMap.2 fun p hp => List.forall_mem_flatMap.2 fun l hl =>
    h p (List.mem_range.1 hp) l (List.mem_reverse.1 hl)

def emitIfI (g : List Nat) (k : Kind) (e r : Nat) : List Ins :=
  if g.length ≤ 1 then [] else [.emit ⟨g, k, e, r⟩]

theorem emitIf_eq (s : St) (g : List Nat) (k : Kind) (e r : Nat) :
    emitIf s g k e r = execs c s (emitIfI g k e r) := by
  unfold emitIf emitIfI
  split <;> rfl

theorem emitIfs_eq {α : Type} (G : α → List Nat) (k : Kind) (e : Nat) (R : α → Nat) (l : List α) (s : St) :
    l.foldl (fun s x => emitIf s (G x) k e (R x)) s = execs c s (l.flatMap fun x => emitIfI (G x) k e (R x)) :=
  foldl_execs (fun s x => emitIf_eq s (G x) k e (R x)) l s

def gathersI (c : NeoxS.Cfg) (p e : Nat) : List Ins :=
  (List.range c.t.dp).flatMap fun d => emitIfI (modelGroup c p d) .allgather e 0

theorem gathers_eq (p e : Nat) (s : St) :
    (List.range c.t.dp).foldl (fun s d => emitIf s (modelGroup c p d) .allgather e 0) s =
      execs c s (gathersI c p e) :=
  emitIfs_eq _ _ _ (fun _ => 0) _ s

def reduceAI (c : NeoxS.Cfg) (p : Nat) (l : Layer) : Ins :=
  .red (match l.par with
    | .col => c.t.stagePeers p
    | .row => dataGroup c p (c.t.modelOf (invOf c p l))) l.aDim

def reduceGI (c : NeoxS.Cfg) (p : Nat) (l : Layer) : Ins :=
  .red (match l.par with
    | .row => c.t.stagePeers p
    | .col => dataGroup c p (c.t.modelOf (invOf c p l))) l.gDim

theorem reduceA_eq (p : Nat) (s : St) (l : Layer) : reduceA c p s l = exec c s (reduceAI c p l) := by
  unfold reduceA reduceAI
  cases l.par <;> rfl

theorem reduceG_eq (p : Nat) (s : St) (l : Layer) : reduceG c p s l = exec c s (reduceGI c p l) := by
  unfold reduceG reduceGI
  cases l.par <;> rfl

def hookI (c : NeoxS.Cfg) (p : Nat) (sharded fire : Bool) (e : Nat) (r : Ins) : List Ins :=
  (if sharded then gathersI c p e else []) ++ if fire then [r] else []

def fwdI (c : NeoxS.Cfg) (p : Nat) (fire : Bool) (l : Layer) : List Ins :=
  hookI c p (l.par == .row) fire (c.tokens * (l.inF / c.t.mp)) (reduceAI c p l)

def bwdI (c : NeoxS.Cfg) (p : Nat) (fire : Bool) (l : Layer) : List Ins :=
  hookI c p (l.par == .col) fire (c.tokens * (l.outF / c.t.mp)) (reduceGI c p l)

theorem fwdLayer_eq (p : Nat) (fire : Bool) (s : St) (l : Layer) :
    fwdLayer c p fire s l = execs c s (fwdI c p fire l) := by
  unfold fwdLayer fwdI hookI
  rw [execs_append]
  cases l.par <;> cases fire <;> simp only [gathers_eq, reduceA_eq] <;> rfl

theorem bwdLayer_eq (p : Nat) (fire : Bool) (s : St) (l : Layer) :
    bwdLayer c p fire s l = execs c s (bwdI c p fire l) := by
  unfold bwdLayer bwdI hookI
  rw [execs_append]
  cases l.par <;> cases fire <;> simp only [gathers_eq, reduceG_eq] <;> rfl

def trainI (c : NeoxS.Cfg) (fire : Bool) : List Ins :=
  (List.range c.t.pp).flatMap fun p =>
    (c.stages.getD p []).flatMap (fwdI c p fire) ++ (c.stages.getD p []).reverse.flatMap (bwdI c p fire)

/-- the factor reductions of `step()` when the factors are not updated in the hooks -/
def redI (c : NeoxS.Cfg) : List Ins := perLayerI c fun p l => [reduceAI c p l, reduceGI c p l]

/-- one factor-update iteration: the hooks of a firing pass, or the reductions of `step()` -/
def iterI (c : NeoxS.Cfg) : List Ins := if c.hook then trainI c true else redI c

def trainProg (c : NeoxS.Cfg) (mini : Nat) : List Ins :=
  if c.hook && (mini + 1) % c.accum == 0 then iterI c else trainI c false

theorem trainPass_eq (s : St) : trainPass c s =
    if s.steps % c.fus != 0 then s else { execs c s (trainProg c s.mini) with mini := s.mini + 1 } := by
  have h : ∀ fire s, (List.range c.t.pp).foldl (fun s p =>
      (c.stages.getD p []).reverse.foldl (bwdLayer c p fire)
        ((c.stages.getD p []).foldl (fwdLayer c p fire) s)) s = execs c s (trainI c fire) := fun fire s =>
    foldl_execs (fun s p => by
      rw [foldl_execs (fwdLayer_eq p fire), foldl_execs (bwdLayer_eq p fire), ← execs_append]) _ s
  have e : ∀ b : Bool, trainI c (c.hook && b) = if c.hook && b then iterI c else trainI c false := fun b => by
    unfold iterI
    cases c.hook <;> cases b <;> rfl
  unfold trainPass trainProg
  simp only [h, e]

/-- `preconditioned_grad` + `broadcast_grad` of one layer: collectives only -/
def precondI (c : NeoxS.Cfg) (p : Nat) (l : Layer) : List Ins :=
  let inv := invOf c p l
  let mg := modelGroup c p (c.t.dataOf inv)
  let w := l.outF * l.inF / c.t.mp
  emitIfI mg .allgather w 0 ++
  (if l.bias && l.par == .col then emitIfI mg .allgather (l.outF / c.t.mp) 0 else []) ++
  emitIfI mg .reducescatter w 0 ++
  (if l.bias then
    (match l.par with
     | .col => emitIfI mg .reducescatter (l.outF / c.t.mp) 0
     | .row => emitIfI mg .broadcast l.outF inv)
   else []) ++
  (List.range c.t.mp).flatMap fun m => emitIfI (dataGroup c p m) .broadcast
    (match l.par with
      | .col => (l.outF / c.t.mp) * (l.inF + (if l.bias then 1 else 0))
      | .row => l.outF * (l.inF / c.t.mp + (if l.bias then 1 else 0)))
    (c.t.rankOf p (c.t.dataOf inv) m)

theorem precondLayer_eq (p : Nat) (s : St) (l : Layer) :
    precondLayer c p s l = execs c s (precondI c p l) := by
  unfold precondLayer precondI
  cases l.par <;> simp only [execs_append, execs_ite, ← emitIf_eq, ← emitIfs_eq]

def precondAllI (c : NeoxS.Cfg) : List Ins := perLayerI c (precondI c)

def stepProg (c : NeoxS.Cfg) (steps : Nat) : List Ins :=
  (if !c.hook && steps % c.fus == 0 then iterI c else []) ++ (.flush :: .flush :: precondAllI c ++ [.flush])

theorem stepOp_eq (s : St) : stepOp c s =
    { execs c s (stepProg c s.steps) with steps := s.steps + 1, mini := 0 } := by
  have h1 : ∀ s, (List.range c.t.pp).foldl (fun s p =>
      (c.stages.getD p []).reverse.foldl (fun s l => reduceG c p (reduceA c p s l) l) s) s =
        execs c s (redI c) :=
    perLayer_eq (g := fun p l => [reduceAI c p l, reduceGI c p l]) fun p s l => by rw [reduceA_eq, reduceG_eq]; rfl
  have h2 : ∀ s, (List.range c.t.pp).foldl (fun s p =>
      (c.stages.getD p []).reverse.foldl (precondLayer c p) s) s = execs c s (precondAllI c) :=
    perLayer_eq precondLayer_eq
  have e1 : ∀ b : Bool, (if !c.hook && b then iterI c else []) = if !c.hook && b then redI c else [] := fun b => by
    cases hh : c.hook
    · rw [iterI, hh]; rfl
    · rfl
  -- `stepOp` counts on from the step counter of the state it has built, which is still `s.steps`
  have e : ∀ is, ({ execs c s is with steps := s.steps + 1, mini := 0 } : St) =
      { execs c s is with steps := (execs c s is).steps + 1, mini := 0 } := fun is => by
    rw [(execs_frame is s).1]
  rw [e]
  unfold stepOp stepProg
  simp only [e1, h1, h2, execs_append, execs_cons, execs_nil, execs_ite]
  rfl

def worldAct (c : NeoxS.Cfg) (k : Kind) : NAct := ⟨worldGroup c, k, 1, 0⟩

def saveI (c : NeoxS.Cfg) (dir : Bool) : List Ins :=
  if dir then [.emit (worldAct c .barrier)] else [.emit (worldAct c .gatherobj), .emit (worldAct c .barrier)]

def loadI (c : NeoxS.Cfg) (dir : Bool) : List Ins := if dir then [] else [.emit (worldAct c .barrier)]

theorem saveOp_eq (dir : Bool) (s : St) : saveOp c dir s = { execs c s (saveI c dir) with kept := s.steps } := by
  cases dir <;> rfl

theorem loadOp_eq (dir fresh : Bool) (s : St) : loadOp c dir fresh s =
    { execs c s (loadI c dir) with
      steps := s.kept
      mini := 0
      comm := if fresh then { cap := c.cap, buckets := [] } else s.comm } := by
  cases dir <;> rfl

theorem run_append (c : NeoxS.Cfg) (a b : List Op) : run c (a ++ b) = b.foldl (apply c) (run c a) :=
  List.foldl_append

theorem foldl_apply_kept (ops : List Op) (s : St) (h : ∀ op ∈ ops, op.isCkpt = false) :
    (ops.foldl (apply c) s).kept = s.kept := by
  refine List.foldlRecOn (motive := fun t => t.kept = s.kept) ops (apply c) rfl (fun t ht op hop => ?_)
  have := h op hop
  cases op with
  | train =>
    rw [apply, trainPass_eq]
    split
    · exact ht
    · exact (execs_frame _ t).2.2.trans ht
  | step =>
    rw [apply, stepOp_eq]
    exact (execs_frame _ t).2.2.trans ht
  | save | load => cases this

/-! ### what the instruction lists consist of -/

section
variable {M : Ins → Prop}

theorem emitIfI_forall {g : List Nat} {k : Kind} {e r : Nat} (h : ¬ g.length ≤ 1 → M (.emit ⟨g, k, e, r⟩)) :
    ∀ i ∈ emitIfI g k e r, M i := by
  unfold emitIfI
  split
  · exact List.forall_mem_nil _
  · exact List.forall_mem_singleton.2 (h ‹_›)

theorem hookI_forall {p : Nat} {sharded fire : Bool} {e : Nat} {r : Ins} (hg : ∀ i ∈ gathersI c p e, M i)
    (hr : fire = true → M r) : ∀ i ∈ hookI c p sharded fire e r, M i := by
  refine List.forall_mem_append.2 ⟨?_, ?_⟩
  · cases sharded
    · exact List.forall_mem_nil _
    · exact hg
  · cases fire
    · exact List.forall_mem_nil _
    · exact List.forall_mem_singleton.2 (hr rfl)

theorem trainI_forall {fire : Bool}
    (hg : ∀ p < c.t.pp, ∀ d < c.t.dp, ∀ e, ¬ (modelGroup c p d).length ≤ 1 →
      M (.emit ⟨modelGroup c p d, .allgather, e, 0⟩))
    (hr : fire = true → ∀ p < c.t.pp, ∀ l, M (reduceAI c p l) ∧ M (reduceGI c p l)) :
    ∀ i ∈ trainI c fire, M i := by
  refine List.forall_mem_flatMap.2 fun p hp => ?_
  have hp := List.mem_range.1 hp
  have hG : ∀ e, ∀ i ∈ gathersI c p e, M i := fun e =>
    List.forall_mem_flatMap.2 fun d hd => emitIfI_forall (hg p hp d (List.mem_range.1 hd) e)
  exact List.forall_mem_append.2
    ⟨List.forall_mem_flatMap.2 fun l _ => hookI_forall (hG _) fun hf => (hr hf p hp l).1,
      List.forall_mem_flatMap.2 fun l _ => hookI_forall (hG _) fun hf => (hr hf p hp l).2⟩

theorem iterI_forall
    (hg : ∀ p < c.t.pp, ∀ d < c.t.dp, ∀ e, ¬ (modelGroup c p d).length ≤ 1 →
      M (.emit ⟨modelGroup c p d, .allgather, e, 0⟩))
    (hr : ∀ p < c.t.pp, ∀ l, M (reduceAI c p l) ∧ M (reduceGI c p l)) : ∀ i ∈ iterI c, M i := by
  unfold iterI
  split
  · exact trainI_forall hg (fun _ => hr)
  · exact perLayerI_forall fun p hp l _ => List.forall_mem_cons.2 ⟨(hr p hp l).1, List.forall_mem_singleton.2 (hr p hp l).2⟩

/-- preconditioning: gathers, scatters and a broadcast rooted at the inverse worker inside its model-parallel
    group, then one broadcast per data-parallel group rooted at its member in that model-parallel group -/
theorem precondAllI_forall
    (hm : ∀ p < c.t.pp, ∀ l ∈ c.stages.getD p [], ∀ k e r,
      k = .allgather ∨ k = .reducescatter ∨ k = .broadcast → (k = .broadcast → r = invOf c p l) →
      ¬ (modelGroup c p (c.t.dataOf (invOf c p l))).length ≤ 1 →
      M (.emit ⟨modelGroup c p (c.t.dataOf (invOf c p l)), k, e, r⟩))
    (hd : ∀ p < c.t.pp, ∀ l ∈ c.stages.getD p [], ∀ m < c.t.mp, ∀ e, ¬ (dataGroup c p m).length ≤ 1 →
      M (.emit ⟨dataGroup c p m, .broadcast, e, c.t.rankOf p (c.t.dataOf (invOf c p l)) m⟩)) :
    ∀ i ∈ precondAllI c, M i := by
  refine perLayerI_forall fun p hp l hl => ?_
  have hM := fun k e r hk hr => emitIfI_forall (hm p hp l hl k e r hk hr)
  unfold precondI
  simp only [List.forall_mem_append]
  refine ⟨⟨⟨⟨hM _ _ _ (.inl rfl) nofun, ?_⟩, hM _ _ _ (.inr (.inl rfl)) nofun⟩, ?_⟩,
    List.forall_mem_flatMap.2 fun m hm' => emitIfI_forall (hd p hp l hl m (List.mem_range.1 hm') _)⟩
  · split
    · exact hM _ _ _ (.inl rfl) nofun
    · exact List.forall_mem_nil _
  · split
    · cases l.par
      · exact hM _ _ _ (.inr (.inl rfl)) nofun
      · exact hM _ _ _ (.inr (.inr rfl)) (fun _ => rfl)
    · exact List.forall_mem_nil _

end

theorem trainI_false_gathers : ∀ i ∈ trainI c false, ∃ a, i = .emit a ∧ a.kind = .allgather :=
  trainI_forall (fun _ _ _ _ _ _ => ⟨_, rfl, rfl⟩) nofun

theorem precondAllI_emits : ∀ i ∈ precondAllI c, ∃ a, i = .emit a :=
  precondAllI_forall (fun _ _ _ _ _ _ _ _ _ _ => ⟨_, rfl⟩) (fun _ _ _ _ _ _ _ _ => ⟨_, rfl⟩)

theorem execs_emits {Q : NAct → Prop} : ∀ {is : List Ins}, (∀ i ∈ is, ∃ a, i = .emit a ∧ Q a) →
    ∃ as, (∀ a ∈ as, Q a) ∧ ∀ s, execs c s is = { s with acts := s.acts ++ as }
  | [], _ => ⟨[], List.forall_mem_nil _, fun s => by rw [execs_nil, List.append_nil]⟩
  | i :: is, h => by
    obtain ⟨a, rfl, ha⟩ := h i (List.mem_cons_self ..)
    obtain ⟨as, h1, h2⟩ := execs_emits (fun j hj => h j (List.mem_cons_of_mem _ hj))
    refine ⟨a :: as, List.forall_mem_cons.2 ⟨ha, h1⟩, fun s => ?_⟩
    rw [execs_cons, h2]
    show ({ s with acts := s.acts ++ [a] ++ as } : St) = _
    rw [List.append_assoc]; rfl

/-! ### what `reduce_*_factor` asks of the communicator -/

/-- new communicator state and the events emitted; there is no error case because a square shape is never
    refused (`reduceFactor_eq`) -/
def req (c : NeoxS.Cfg) (σ : Comm.CState) (g : List Nat) (tid n : Nat) : Comm.CState × List Comm.Event :=
  if g.length = 1 then (σ, [])
  else if c.bucketed then KV.C08.stepB σ g (KV.C08.mkItem tid [n, n] c.esize 0 c.sym)
  else (σ, [.allreduce g [tid] (Comm.commElems [n, n] c.sym)])

theorem stepB_shape (σ : Comm.CState) (g : Comm.Key) (it : Comm.Item) :
    ∃ b evs, KV.C08.stepB σ g it = ({ σ with buckets := Comm.setB g (some b) σ.buckets }, evs) ∧
      ∀ ev ∈ evs, ∃ t e, ev = .allreduce g t e :=
  ⟨_, _, rfl, KV.C08.addItem_events _ _ _ _⟩

/-- which of the three a request is depends on the group and the configuration, not on the communicator -/
theorem req_cases (c : NeoxS.Cfg) (g : Comm.Key) (tid n : Nat) :
    (g.length = 1 ∧ ∀ σ, req c σ g tid n = (σ, [])) ∨
    (g.length ≠ 1 ∧ c.bucketed = true ∧
      ∀ σ, req c σ g tid n = KV.C08.stepB σ g (KV.C08.mkItem tid [n, n] c.esize 0 c.sym)) ∨
    (g.length ≠ 1 ∧ c.bucketed = false ∧
      ∀ σ, req c σ g tid n = (σ, [.allreduce g [tid] (Comm.commElems [n, n] c.sym)])) := by
  unfold req
  by_cases h1 : g.length = 1
  · exact .inl ⟨h1, fun σ => if_pos h1⟩
  · cases hb : c.bucketed
    · exact .inr (.inr ⟨h1, rfl, fun σ => by rw [if_neg h1, if_neg Bool.false_ne_true]⟩)
    · exact .inr (.inl ⟨h1, rfl, fun σ => by rw [if_neg h1, if_pos rfl]⟩)

theorem reduceFactor_eq (s : St) (g : List Nat) (n : Nat) : reduceFactor c s g n =
    { s with comm := (req c s.comm g s.tid n).1, tid := s.tid + 1,
             acts := s.acts ++ (req c s.comm g s.tid n).2.map ofEvent } := by
  have hsq : Comm.checkShape [n, n] c.sym = .ok () := by cases c.sym <;> simp [Comm.checkShape]
  unfold reduceFactor
  rcases req_cases c g s.tid n with ⟨h1, e⟩ | ⟨h1, hb, e⟩ | ⟨h1, hb, e⟩ <;> rw [e]
  · simp [Comm.allreduceBucketed, Comm.allreduce, h1]
  · rw [hb, if_pos rfl, KV.C08.arB_accept _ _ _ _ _ _ _ h1 (by rw [KV.C08.shapeOk, hsq])]
  · rw [hb, if_neg Bool.false_ne_true]
    simp [Comm.allreduce, h1, hsq]

theorem req_inv (K : Comm.Key → Prop) (σ : Comm.CState) (g : Comm.Key) (tid n : Nat)
    (hs : ∀ k ∈ σ.buckets.map (·.1), K k) (hg : g.length ≠ 1 → K g) :
    (∀ k ∈ (req c σ g tid n).1.buckets.map (·.1), K k) ∧
    (∀ ev ∈ (req c σ g tid n).2, ∃ k t e, ev = .allreduce k t e ∧ K k) := by
  rcases req_cases c g tid n with ⟨_, e⟩ | ⟨h1, _, e⟩ | ⟨h1, _, e⟩ <;> rw [e]
  · exact ⟨hs, List.forall_mem_nil _⟩
  · obtain ⟨b, evs, e', hev⟩ := stepB_shape σ g (KV.C08.mkItem tid [n, n] c.esize 0 c.sym)
    rw [e']
    refine ⟨fun k hk => ((KV.C08.mem_keys_setB _ _ _ _).1 hk).elim (hs k) (· ▸ hg h1), fun ev hev' => ?_⟩
    obtain ⟨t, e, rfl⟩ := hev ev hev'
    exact ⟨_, _, _, rfl, hg h1⟩
  · exact ⟨hs, fun ev hev => ⟨_, _, _, List.mem_singleton.1 hev, hg h1⟩⟩

theorem flush_inv (K : Comm.Key → Prop) (s : Comm.CState) (hs : ∀ k ∈ s.buckets.map (·.1), K k) :
    (∀ k ∈ (Comm.flush s).1.buckets.map (·.1), K k) ∧
    (∀ ev ∈ (Comm.flush s).2, ∃ k t e, ev = .allreduce k t e ∧ K k) := by
  refine ⟨(KV.C08.keys_flush s).2 ▸ hs, fun ev hev => ?_⟩
  obtain ⟨k, hk, t, e, rfl⟩ := KV.C08.flushEv_events s.buckets ev hev
  exact ⟨_, _, _, rfl, hs k hk⟩

/-! ### an invariant of all collectives: it is enough to look at the instructions -/

/-- the all-reduce a bucket with key `g` turns into -/
def AR (g : List Nat) (e : Nat) : NAct := { members := g, kind := .allreduce, elems := e, root := 0 }

/-- every collective of the script satisfies `Q`, and so will every all-reduce on a key of the communicator -/
def Inv (Q : NAct → Prop) (s : St) : Prop :=
  (∀ a ∈ s.acts, Q a) ∧ ∀ k ∈ s.comm.buckets.map (·.1), ∀ e, Q (AR k e)

def InsOk (Q : NAct → Prop) : Ins → Prop
  | .emit a => Q a
  | .red g _ => g.length ≠ 1 → ∀ e, Q (AR g e)
  | .flush => True

variable {Q : NAct → Prop}

theorem Inv.events {s : St} (hs : Inv Q s) {evs : List Comm.Event}
    (he : ∀ ev ∈ evs, ∃ k t e, ev = .allreduce k t e ∧ ∀ e, Q (AR k e)) :
    ∀ a ∈ s.acts ++ evs.map ofEvent, Q a := by
  refine List.forall_mem_append.2 ⟨hs.1, List.forall_mem_map.2 fun ev hev => ?_⟩
  obtain ⟨k, t, e, rfl, hk⟩ := he ev hev
  exact hk e

theorem Inv.exec {s : St} (hs : Inv Q s) : ∀ {i : Ins}, InsOk Q i → Inv Q (exec c s i)
  | .emit a, hi => ⟨List.forall_mem_append.2 ⟨hs.1, List.forall_mem_singleton.2 hi⟩, hs.2⟩
  | .red g n, hi => by
    obtain ⟨h1, h2⟩ := req_inv (c := c) (fun k => ∀ e, Q (AR k e)) s.comm g s.tid n hs.2 hi
    rw [C11S.exec, reduceFactor_eq]
    exact ⟨hs.events h2, h1⟩
  | .flush, _ => by
    obtain ⟨h1, h2⟩ := flush_inv (fun k => ∀ e, Q (AR k e)) s.comm hs.2
    exact ⟨hs.events h2, h1⟩

theorem Inv.execs {is : List Ins} {s : St} (hs : Inv Q s) (h : ∀ i ∈ is, InsOk Q i) : Inv Q (execs c s is) :=
  List.foldlRecOn is (C11S.exec c) hs (fun _ ht i hi => ht.exec (h i hi))

/-! ### well-formedness and classification of the collectives -/

/-- what `wfAux` checks on one issue -/
def GoodB (n : Nat) (a : NAct) : Prop :=
  (∀ x ∈ a.members, x < n) ∧ 2 ≤ a.members.length ∧ (a.kind = .broadcast → a.root ∈ a.members)

theorem wfAux_map_toG (n : Nat) : ∀ (l : List NAct) (seen : List (List Nat)),
    (∀ a ∈ l, GoodB n a) → KV.Sched2.wfAux n seen (l.map toG) = true
  | [], _, _ => rfl
  | a :: t, seen, h => by
    obtain ⟨h1, h2, h3⟩ := h a (List.mem_cons_self ..)
    have ih := wfAux_map_toG n t (seen ++ [a.members]) (fun b hb => h b (List.mem_cons_of_mem _ hb))
    simp only [List.map_cons, toG, KV.Sched2.wfAux, ih, Bool.and_true, Bool.and_eq_true,
      List.all_eq_true, decide_eq_true_eq]
    refine ⟨⟨h1, h2⟩, ?_⟩
    cases hk : a.kind
    case broadcast => simpa using h3 hk
    all_goals rfl

/-- the group/kind classification of `neox_groups` -/
def Grp (c : NeoxS.Cfg) (a : NAct) : Prop :=
    (∃ p d, p < c.t.pp ∧ d < c.t.dp ∧ a.members = modelGroup c p d ∧
        (a.kind = .allgather ∨ a.kind = .reducescatter ∨ a.kind = .broadcast)) ∨
    (∃ p m, p < c.t.pp ∧ m < c.t.mp ∧ a.members = dataGroup c p m ∧
        (a.kind = .allreduce ∨ a.kind = .broadcast)) ∨
    (∃ p, p < c.t.pp ∧ a.members = c.t.stagePeers p ∧ a.kind = .allreduce) ∨
    (a.members = worldGroup c ∧ (a.kind = .gatherobj ∨ a.kind = .barrier))

/-- `P` switches the well-formedness half on, so that ONE induction (`Inv_run`) gives `C11.neox_script_wf`
    (`P := True`; the world-wide collectives of a checkpoint then need a world of two) and `C11.neox_groups`
    (`P := False`; every history) -/
def Ok (P : Prop) (c : NeoxS.Cfg) (a : NAct) : Prop := (P → GoodB c.t.world a) ∧ Grp c a

variable {P : Prop} {p : Nat}

theorem length_modelGroup (c : NeoxS.Cfg) (p d : Nat) : (modelGroup c p d).length = c.t.mp := by
  simp [modelGroup]

theorem length_dataGroup (c : NeoxS.Cfg) (p m : Nat) : (dataGroup c p m).length = c.t.dp := by
  simp [dataGroup]

theorem Ok_stage (h : TopoOK c.t) (hp : p < c.t.pp) (hlen : (c.t.stagePeers p).length ≠ 1) (e : Nat) :
    Ok P c (AR (c.t.stagePeers p) e) :=
  ⟨fun _ => ⟨fun _ hx => ((mem_stagePeers _ _ _).1 hx).1,
      Nat.lt_of_le_of_ne (List.length_pos_iff.2 (stagePeers_ne_nil c.t h hp)) (Ne.symm hlen), nofun⟩,
    .inr (.inr (.inl ⟨p, hp, rfl, rfl⟩))⟩

theorem Ok_data (h : TopoOK c.t) (hp : p < c.t.pp) {m : Nat} (hm : m < c.t.mp)
    (hlen : (dataGroup c p m).length ≠ 1) {k : Kind} (hk : k = .allreduce ∨ k = .broadcast) (e : Nat) {r : Nat}
    (hr : k = .broadcast → r ∈ dataGroup c p m) : Ok P c ⟨dataGroup c p m, k, e, r⟩ :=
  ⟨fun _ => ⟨fun x hx => ((mem_dataLine h hp hm x).1 hx).1,
      Nat.lt_of_le_of_ne ((length_dataGroup c p m).symm ▸ h.dp) (Ne.symm hlen), hr⟩,
    .inr (.inl ⟨p, m, hp, hm, rfl, hk⟩)⟩

theorem Ok_model (h : TopoOK c.t) (hp : p < c.t.pp) {d : Nat} (hd : d < c.t.dp)
    (hlen : ¬ (modelGroup c p d).length ≤ 1) {k : Kind}
    (hk : k = .allgather ∨ k = .reducescatter ∨ k = .broadcast) (e : Nat) {r : Nat}
    (hr : k = .broadcast → r ∈ modelGroup c p d) : Ok P c ⟨modelGroup c p d, k, e, r⟩ :=
  ⟨fun _ => ⟨fun x hx => ((mem_modelLine h hp hd x).1 hx).1, Nat.lt_of_not_le hlen, hr⟩,
    .inl ⟨p, d, hp, hd, rfl, hk⟩⟩

theorem Ok_world (hw : P → 2 ≤ c.t.world) {k : Kind} (hk : k = .gatherobj ∨ k = .barrier) :
    Ok P c (worldAct c k) := by
  refine ⟨fun hP => ⟨fun x hx => List.mem_range.1 hx, ?_, ?_⟩, .inr (.inr (.inr ⟨rfl, hk⟩))⟩
  · show 2 ≤ (worldGroup c).length
    simpa [worldGroup] using hw hP
  · rintro (hb : k = .broadcast)
    rcases hk with hk | hk <;> rw [hk] at hb <;> cases hb

theorem invOf_spec (h : TopoOK c.t) (hp : p < c.t.pp) {l : Layer} (hl : l ∈ c.stages.getD p []) :
    (asg c p).invWorker p l.name = some (invOf c p l) ∧ invOf c p l < c.t.world ∧
      c.t.pipeOf (invOf c p l) = p := by
  obtain ⟨inv, hinv, hst⟩ := invWorker_mem_stage (asg c p) h hp
    (l := (l.name, [("A", cost c l.aDim), ("G", cost c l.gDim)])) (List.mem_map.2 ⟨l, hl, rfl⟩)
  rw [show invOf c p l = inv from congrArg (·.getD 0) hinv]
  exact ⟨hinv, hst⟩

theorem workers_asg (h : TopoOK c.t) (hp : p < c.t.pp) {l : Layer} (hl : l ∈ c.stages.getD p []) {loc : Nat}
    (hloc : loc < c.t.world) (hs : c.t.pipeOf loc = p) :
    (asg c p).factorWorker loc l.name = some (c.t.rankOf p (c.t.dataOf loc) (c.t.modelOf (invOf c p l))) ∧
    (asg c p).srcGradWorker loc l.name = some (c.t.rankOf p (c.t.dataOf (invOf c p l)) (c.t.modelOf loc)) := by
  obtain ⟨hinv, hw, hpipe⟩ := invOf_spec h hp hl
  subst hs
  exact ⟨factorWorker_eq (c := asg c _) h hloc hinv hw hpipe, srcGradWorker_eq (c := asg c _) h hloc hinv hw hpipe⟩

/-! ### every instruction of every operation is fine -/

theorem reduce_ok (h : TopoOK c.t) (hp : p < c.t.pp) (l : Layer) :
    InsOk (Ok P c) (reduceAI c p l) ∧ InsOk (Ok P c) (reduceGI c p l) := by
  have hD : ∀ n, InsOk (Ok P c) (.red (dataGroup c p (c.t.modelOf (invOf c p l))) n) := fun _ hlen e =>
    Ok_data h hp (modelOf_lt h _) hlen (.inl rfl) e nofun
  unfold reduceAI reduceGI
  cases l.par
  · exact ⟨Ok_stage h hp, hD _⟩
  · exact ⟨hD _, Ok_stage h hp⟩

theorem gather_ok (h : TopoOK c.t) : ∀ p < c.t.pp, ∀ d < c.t.dp, ∀ e, ¬ (modelGroup c p d).length ≤ 1 →
    InsOk (Ok P c) (.emit ⟨modelGroup c p d, .allgather, e, 0⟩) :=
  fun _ hp _ hd e hlen => Ok_model h hp hd hlen (.inl rfl) e nofun

theorem iterI_ok (h : TopoOK c.t) : ∀ i ∈ iterI c, InsOk (Ok P c) i :=
  iterI_forall (gather_ok h) (fun _ hp l => reduce_ok h hp l)

theorem trainProg_ok (h : TopoOK c.t) (mini : Nat) : ∀ i ∈ trainProg c mini, InsOk (Ok P c) i := by
  unfold trainProg
  split
  · exact iterI_ok h
  · exact trainI_forall (gather_ok h) nofun

theorem precondAllI_ok (h : TopoOK c.t) : ∀ i ∈ precondAllI c, InsOk (Ok P c) i := by
  refine precondAllI_forall (fun p hp l hl k e r hk hr hlen => ?_) (fun p hp l hl m hm e hlen => ?_)
  · obtain ⟨_, hw, hpipe⟩ := invOf_spec h hp hl
    have hd := dataOf_lt h (invOf c p l)
    exact Ok_model h hp hd hlen hk e (fun hb => by rw [hr hb]; exact (mem_modelLine h hp hd _).2 ⟨hw, hpipe, rfl⟩)
  · have hd := dataOf_lt h (invOf c p l)
    exact Ok_data h hp hm (fun h1 => hlen (Nat.le_of_eq h1)) (.inr rfl) e
      (fun _ => (mem_dataLine h hp hm _).2 ⟨rankOf_lt hp hd hm, pipeOf_rankOf hd hm, modelOf_rankOf hm⟩)

theorem stepProg_ok (h : TopoOK c.t) (steps : Nat) : ∀ i ∈ stepProg c steps, InsOk (Ok P c) i := by
  unfold stepProg
  refine List.forall_mem_append.2 ⟨?_, List.forall_mem_cons.2 ⟨trivial, List.forall_mem_cons.2 ⟨trivial,
    List.forall_mem_append.2 ⟨precondAllI_ok h, List.forall_mem_singleton.2 trivial⟩⟩⟩⟩
  split
  · exact iterI_ok h
  · exact List.forall_mem_nil _

theorem saveI_ok (hw : P → 2 ≤ c.t.world) (dir : Bool) : ∀ i ∈ saveI c dir, InsOk (Ok P c) i := by
  cases dir
  · exact List.forall_mem_cons.2 ⟨Ok_world hw (.inl rfl), List.forall_mem_singleton.2 (Ok_world hw (.inr rfl))⟩
  · exact List.forall_mem_singleton.2 (Ok_world hw (.inr rfl))

theorem loadI_ok (hw : P → 2 ≤ c.t.world) (dir : Bool) : ∀ i ∈ loadI c dir, InsOk (Ok P c) i := by
  cases dir
  · exact List.forall_mem_singleton.2 (Ok_world hw (.inr rfl))
  · exact List.forall_mem_nil _

theorem Inv_run (c : NeoxS.Cfg) (h : TopoOK c.t) (ops : List Op)
    (hw : P → (2 ≤ c.t.world ∨ ∀ op ∈ ops, op.isCkpt = false)) : Inv (Ok P c) (run c ops) := by
  refine List.foldlRecOn ops (apply c) ⟨List.forall_mem_nil _, List.forall_mem_nil _⟩ (fun s hs op hop => ?_)
  have hck : op.isCkpt = true → P → 2 ≤ c.t.world := fun hc hP =>
    (hw hP).elim id (fun h2 => by rw [h2 op hop] at hc; cases hc)
  cases op with
  | train =>
    rw [apply, trainPass_eq]
    split
    · exact hs
    · exact hs.execs (trainProg_ok h _)
  | step =>
    rw [apply, stepOp_eq]
    exact hs.execs (stepProg_ok h _)
  | save dir =>
    rw [apply, saveOp_eq]
    exact hs.execs (saveI_ok (hck rfl) dir)
  | load dir fresh =>
    rw [apply, loadOp_eq]
    refine ⟨(hs.execs (loadI_ok (hck rfl) dir)).1, ?_⟩
    cases fresh
    · exact hs.2
    · exact List.forall_mem_nil _

end KV.C11S
