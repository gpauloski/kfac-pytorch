/-
M-Precond: the checkpoint round trip restores step count, hyper-parameters and factor values on
every rank.  `Fr t t'` (nothing a round trip must keep has changed) holds across `Cell.run` of a
program whose written cell has the factor values and batches of the cell it read, and none of the
cell programs of the inverse phase writes anything else.  Second half (`KV.LoadInto`): what
`KV.C09.loadInto'_eq` (the repaired `load_state_dict`, `loadInto'`, is `loadInto` whenever every layer of the
loaded state has its factors) rests on: the stages of `loadInto'` and `invAll'_eq`.  Core Lean only.
-/
import KfacVerif.Lemmas.PrecondOps

namespace KV.PF
open KV KV.Precond
open KV.Refine (strip loadFacs)

def K (x : LState) : Option V × Option V × Option V × Option V :=
  (x.aFactor.map (·.val), x.gFactor.map (·.val), x.aBatch, x.gBatch)

structure Fr (t t' : St) : Prop where
  steps : t'.steps = t.steps
  hyper : t'.hyper = t.hyper
  lay : ∀ r l, K (getL t' r l) = K (getL t r l)

theorem Fr.refl (t : St) : Fr t t := ⟨rfl, rfl, fun _ _ => rfl⟩

theorem Fr.trans {a b c : St} (h : Fr a b) (h' : Fr b c) : Fr a c :=
  ⟨h'.steps.trans h.steps, h'.hyper.trans h.hyper, fun r l => (h'.lay r l).trans (h.lay r l)⟩

theorem Fr.foldl {α : Type} (f : St → α → St) (hf : ∀ t a, Fr t (f t a)) (L : List α) (t : St) :
    Fr t (L.foldl f t) :=
  List.foldlRecOn L f (Fr.refl t) fun u hu a _ => hu.trans (hf u a)

theorem Fr.reads (s : St) (r : Nat) (x : LState) (fs : List Fld) : Fr s (Cell.reads s r x fs) := by
  obtain ⟨a, e⟩ := Cell.reads_eq s r x fs
  rw [e]; exact ⟨rfl, rfl, fun _ _ => rfl⟩

theorem Fr.fail (s : St) (r : Nat) (w : String) : Fr s (fail s r w) :=
  ⟨fail_steps .., fail_hyper .., fun _ _ => congrArg K (getL_fail ..)⟩

theorem Fr.setL {t : St} {r l : Nat} {x : LState} (hx : K x = K (getL t r l)) : Fr t (setL t r l x) := by
  refine ⟨rfl, rfl, fun r' l' => ?_⟩
  rcases getL_setL_cases t r l x r' l' with ⟨e, rfl, rfl⟩ | e <;> rw [e]
  exact hx

theorem Fr.run (s : St) (r l : Nat) (p : Cell.Out) (hp : p.All (K · = K (getL s r l))) :
    Fr s (Cell.run s r l p) := by
  cases p with
  | fail rs w => exact (Fr.reads ..).trans (Fr.fail ..)
  | write rs x => exact (Fr.reads ..).trans (Fr.setL (by rw [Cell.getL_reads]; exact hp))

theorem Fr.step {p : Nat → LState → Cell.Out} (hp : ∀ r x, (p r x).All (K · = K x)) (l : Nat) (s : St) (r : Nat) :
    Fr s (Cell.step p l s r) :=
  Fr.run s r l _ (hp r _)

theorem Fr.bcast {f : Fld} (hf : ∀ x o, K (LState.set x f o) = K x) (s : St) (l : Nat) (members : List Nat)
    (d : Desc) : Fr s (bcast s l members d f) :=
  Fr.trans (b := (issue s members d).1) ⟨rfl, rfl, fun _ _ => rfl⟩ (Fr.foldl _ (fun _ _ => Fr.setL (hf _ _)) _ _)

theorem Fr.bcastF {f : Fld} (hf : ∀ x o, K (LState.set x f o) = K x) (c : Cfg) (s : St) (l src elems : Nat) :
    Fr s (bcastF c s l src elems f) :=
  iteInduction (fun _ => Fr.refl s) fun _ => Fr.bcast hf ..

/-! ### the cell programs of the inverse phase and of `state_dict` keep factors and batches

They write factor slots only by `rdVal`, which keeps the value. -/

theorem Cell.computeAInv_K (c d x) : (Cell.computeAInv c d x).All (K · = K x) := by
  unfold Cell.computeAInv
  cases c.method <;> simp only [Cell.Out.All_ite_eq, Cell.Out.All_fail, Cell.Out.All_write, K, rdVal_val, ite_self]

theorem Cell.computeGInv_K (c d x) : (Cell.computeGInv c d x).All (K · = K x) := by
  unfold Cell.computeGInv
  cases c.method <;> simp only [Cell.Out.All_ite_eq, Cell.Out.All_fail, Cell.Out.All_write, K, rdVal_val, ite_self]

theorem Cell.allocA_K (c src r x) : (Cell.allocA c src r x).All (K · = K x) := by
  unfold Cell.allocA
  cases c.method <;> simp only [Cell.Out.All_ite_eq, Cell.Out.All_fail, Cell.Out.All_write, K, rdVal_val, ite_self]

theorem Cell.allocG_K (c src r x) : (Cell.allocG c src r x).All (K · = K x) := by
  unfold Cell.allocG
  cases c.method <;> simp only [Cell.Out.All_ite_eq, Cell.Out.All_fail, Cell.Out.All_write, K, rdVal_val, ite_self]

theorem Cell.rd_K (f x) : (Cell.rd f x).All (K · = K x) := by
  cases f <;> simp only [Cell.rd, Cell.Out.All_write, K, LState.set, LState.get, rdVal_val]

theorem Fr.computeAInv (c : Cfg) (s : St) (r l : Nat) (d : Rat) : Fr s (computeAInv c s r l d) := by
  rw [computeAInv_eq]; exact Fr.run _ _ _ _ (Cell.computeAInv_K ..)

theorem Fr.computeGInv (c : Cfg) (s : St) (r l : Nat) (d : Rat) : Fr s (computeGInv c s r l d) := by
  rw [computeGInv_eq]; exact Fr.run _ _ _ _ (Cell.computeGInv_K ..)

abbrev NoFac (f : Fld) : Prop := f ≠ .aFactor ∧ f ≠ .gFactor

theorem K_set {f : Fld} (hf : NoFac f) (x : LState) (o : Option Slot) : K (x.set f o) = K x := by
  cases f <;> first | rfl | exact absurd rfl hf.1 | exact absurd rfl hf.2

theorem Fr.sendFs (c : Cfg) (s : St) (l src : Nat) {fs : List Fld} (hfs : ∀ f ∈ fs, NoFac f) : Fr s (sendFs c l src fs s) :=
  List.foldlRecOn _ _ (Fr.refl s) fun _ h f hf => h.trans (Fr.bcastF (K_set (hfs f hf)) ..)

theorem fldsA_so (m : Method) (p : Bool) : ∀ f ∈ fldsA m p, NoFac f := by
  cases m <;> cases p <;> decide

theorem fldsG_so (m : Method) (p : Bool) : ∀ f ∈ fldsG m p, NoFac f := by
  cases m <;> cases p <;> decide

theorem Fr.broadcastAInv (c : Cfg) (s : St) (l : Nat) : Fr s (broadcastAInv c s l) := by
  rw [broadcastAInv_eq]
  exact (Fr.foldl _ (Fr.step (Cell.allocA_K c _) l)
    _ s).trans (Fr.sendFs _ _ _ _ (fldsA_so _ _))

theorem Fr.broadcastGInv (c : Cfg) (s : St) (l : Nat) : Fr s (broadcastGInv c s l) := by
  rw [broadcastGInv_eq]
  exact (Fr.foldl _ (Fr.step (Cell.allocG_K c _) l)
    _ s).trans (Fr.sendFs _ _ _ _ (fldsG_so _ _))

theorem Fr.eachCell {α : Type} (c : Cfg) (ls : List Nat) (as : List α) {p : α → Nat → LState → Cell.Out}
    (hp : ∀ a r x, (p a r x).All (K · = K x)) (s : St) : Fr s (eachCell c ls as p s) :=
  Fr.foldl _ (fun t r => Fr.foldl _ (fun t l => Fr.foldl _ (fun t a => Fr.step (hp a) l t r) _ t) _ t) _ s

theorem Fr.saveState (c : Cfg) (s : St) (f : Bool) : Fr s (saveState c s f) := by
  rw [saveState_eq]; exact iteInduction (fun _ => Fr.refl _) fun _ => Fr.eachCell _ _ _ (fun f _ => Cell.rd_K f) s

theorem Fr.invAll (c : Cfg) (d : Rat) (t : St) (l : Nat) : Fr t (invAll c d t l) :=
  (Fr.foldl _ (fun t r => (Fr.computeAInv c t r l d).trans (Fr.computeGInv c _ r l d)) (worldRanks c) t).trans
    (iteInduction (fun _ => (Fr.broadcastAInv ..).trans (Fr.broadcastGInv ..)) fun _ => Fr.refl _)

theorem Fr.loadInto (c : Cfg) (cur snap : St) (ci : Bool) :
    Fr (loadFacs c snap (freshOf c cur snap)) (loadInto c cur snap true ci) := by
  rw [loadInto_eq, if_neg (by decide)]
  exact iteInduction (fun _ => Fr.refl _) fun _ => Fr.foldl _ (Fr.invAll c _) _ _

theorem loadInto_restores (c : Cfg) (cur snap : St) (ci : Bool) {r l : Nat} (hr : r < c.world)
    (hl : l < c.layers.length) :
    (loadInto c cur snap true ci).steps = snap.steps ∧ (loadInto c cur snap true ci).hyper = snap.hyper ∧
    K (getL (loadInto c cur snap true ci) r l) =
      ((getL snap r l).aFactor.map (·.val), (getL snap r l).gFactor.map (·.val), none, none) := by
  have h := Fr.loadInto c cur snap ci
  obtain ⟨rk, e⟩ := loadFacs_eq_ranks c snap (freshOf c cur snap)
  refine ⟨h.steps.trans (by rw [e]; rfl), h.hyper.trans (by rw [e]; rfl), (h.lay r l).trans ?_⟩
  rw [getL_loadFacs snap (Shape.freshOf ..) hr hl, getL_freshOf]
  simp only [K, strip_val]

/-- **round trip on every rank** -/
theorem roundtrip (c : Cfg) (s : St) (ci : Bool) (r l : Nat) (hr : r < c.world) (hl : l < c.layers.length) :
    (Precond.saveLoad c s true ci).steps = s.steps ∧ (Precond.saveLoad c s true ci).hyper = s.hyper ∧
    ((getL (Precond.saveLoad c s true ci) r l).aFactor.map (·.val)) = ((getL s r l).aFactor.map (·.val)) ∧
    ((getL (Precond.saveLoad c s true ci) r l).gFactor.map (·.val)) = ((getL s r l).gFactor.map (·.val)) ∧
    (getL (Precond.saveLoad c s true ci) r l).aBatch = none ∧
    (getL (Precond.saveLoad c s true ci) r l).gBatch = none := by
  have h1 := Fr.saveState c s true
  obtain ⟨e1, e2, e3⟩ := loadInto_restores c (saveState c s true) (saveState c s true) ci hr hl
  have h4 := h1.lay r l
  simp only [K, Prod.mk.injEq] at e3 h4
  exact ⟨e1.trans h1.steps, e2.trans h1.hyper, e3.1.trans h4.1, e3.2.1.trans h4.2.1, e3.2.2⟩

end KV.PF

/-! The inverse stage never drops a factor (`Fr`), so the test of the repaired code (`loadInto'` skips layers
without factors) never fires. -/

namespace KV.LoadInto
open KV KV.Precond KV.PF
open KV.Refine (strip loadFacs)

theorem loadInto'_eq_stages (c : Cfg) (cur snap : St) (f ci : Bool) :
    loadInto' c cur snap f ci =
      if !f then freshOf c cur snap else
      if !ci then loadFacs c snap (freshOf c cur snap) else
      (layerIdxs c).foldl (fun t l =>
          if !layerHasFactors c t l then t else
          invAll c ((loadFacs c snap (freshOf c cur snap)).hyper.damping.val (loadFacs c snap (freshOf c cur snap)).steps) t l)
        (loadFacs c snap (freshOf c cur snap)) :=
  rfl

def HasF (c : Cfg) (t : St) : Prop :=
  ∀ r l, r < c.world → l < c.layers.length →
    (getL t r l).aFactor.isSome = true ∧ (getL t r l).gFactor.isSome = true

theorem HasF.fr {c : Cfg} {t t' : St} (h : HasF c t) (hfr : Fr t t') : HasF c t' := by
  intro r l hr hl
  have hk := hfr.lay r l
  simp only [K, Prod.mk.injEq] at hk
  have e1 := congrArg Option.isSome hk.1
  have e2 := congrArg Option.isSome hk.2.1
  rw [Option.isSome_map, Option.isSome_map] at e1 e2
  exact ⟨e1.trans (h r l hr hl).1, e2.trans (h r l hr hl).2⟩

theorem HasF.layer {c : Cfg} {t : St} (h : HasF c t) {l : Nat} (hl : l < c.layers.length) :
    layerHasFactors c t l = true := by
  unfold layerHasFactors
  rw [List.all_eq_true]
  intro r hr
  obtain ⟨ha, hg⟩ := h r l (mem_worldRanks.mp hr) hl
  rw [ha, hg]; rfl

theorem HasF.loadFacs {c : Cfg} {snap : St} (hf : HasF c snap) (cur : St) :
    HasF c (loadFacs c snap (freshOf c cur snap)) := by
  intro r l hr hl
  rw [getL_loadFacs snap (Shape.freshOf ..) hr hl]
  simp only [strip_isSome]
  exact hf r l hr hl

theorem invAll'_eq {c : Cfg} (d : Rat) {t : St} (h : HasF c t) :
    (layerIdxs c).foldl (fun t l => if !layerHasFactors c t l then t else invAll c d t l) t =
      (layerIdxs c).foldl (invAll c d) t :=
  foldl_congr_inv (HasF c) _ _ _ (fun t l ht hl =>
    ⟨by rw [ht.layer (mem_layerIdxs.mp hl)]; rfl, ht.fr (Fr.invAll c d t l)⟩) t h

end KV.LoadInto
