/-
The reference machine KV.Spec operation by operation: each layer operation as `setS` of a function of
the layer, `fwdBwd`, `saveLoad` and `step` cut into stages, which stage touches which field, and what
the intervals and schedules gate.  Core Lean only.
-/
import KfacVerif.Model.Spec
import KfacVerif.Lemmas.BasicL

namespace KV.Spec
open KV KV.Precond

theorem mem_idxs {c : SCfg} {l : Nat} : l ∈ idxs c ↔ l < c.nLayers := by
  simp [idxs]

theorem mem_revIdxs {c : SCfg} {l : Nat} : l ∈ revIdxs c ↔ l < c.nLayers := by
  simp [revIdxs, idxs]

theorem getS_setS (s : SSt) (l l' : Nat) (x : SLayer) :
    getS (setS s l x) l' = if l' = l ∧ l < s.layers.length then x else getS s l' := by
  unfold getS setS
  simp only [List.getD_eq_getElem?_getD, List.getElem?_set]
  by_cases h : l = l'
  · subst h
    by_cases h2 : l < s.layers.length
    · simp [h2]
    · simp [h2]
  · have : ¬ l' = l := fun e => h e.symm
    simp [h, this]

theorem getS_setS_self (s : SSt) (l : Nat) (x : SLayer) (h : l < s.layers.length) :
    getS (setS s l x) l = x := by rw [getS_setS]; simp [h]

theorem getS_setS_ne (s : SSt) {l l' : Nat} (x : SLayer) (h : l' ≠ l) :
    getS (setS s l x) l' = getS s l' := by rw [getS_setS]; simp [h]

theorem getS_oob (s : SSt) (l : Nat) (h : s.layers.length ≤ l) : getS s l = {} := by
  unfold getS; simp [List.getD_eq_getElem?_getD, List.getElem?_eq_none_iff.mpr h]

theorem setS_oob (s : SSt) (l : Nat) (x : SLayer) (h : s.layers.length ≤ l) : setS s l x = s := by
  unfold setS; rw [List.set_eq_of_length_le h]

theorem getS_setS_proj {γ : Type _} (p : SLayer → γ) (s : SSt) (l l' : Nat) (x : SLayer)
    (h : p x = p (getS s l)) : p (getS (setS s l x) l') = p (getS s l') := by
  rw [getS_setS]
  split
  · rename_i hh; rw [hh.1, h]
  · rfl

@[simp] theorem setS_steps (s : SSt) (l x) : (setS s l x).steps = s.steps := rfl
@[simp] theorem setS_mini (s : SSt) (l x) : (setS s l x).mini = s.mini := rfl
@[simp] theorem setS_pass (s : SSt) (l x) : (setS s l x).pass = s.pass := rfl
@[simp] theorem setS_hyper (s : SSt) (l x) : (setS s l x).hyper = s.hyper := rfl
@[simp] theorem setS_defs (s : SSt) (l x) : (setS s l x).defs = s.defs := rfl
@[simp] theorem setS_out (s : SSt) (l x) : (setS s l x).out = s.out := rfl
@[simp] theorem setS_len (s : SSt) (l x) : (setS s l x).layers.length = s.layers.length := by
  simp [setS]

/-- each layer in a duplicate-free `L` is rewritten once, from its initial value -/
theorem getS_foldl_setS (g : Nat → SLayer → SLayer) {L : List Nat} (hL : L.Nodup) (s : SSt) (l : Nat) :
    getS (L.foldl (fun t a => setS t a (g a (getS t a))) s) l =
      if l ∈ L ∧ l < s.layers.length then g l (getS s l) else getS s l := by
  induction L generalizing s with
  | nil => simp
  | cons a t ih =>
    obtain ⟨hat, ht⟩ := List.nodup_cons.mp hL
    rw [List.foldl_cons, ih ht, setS_len, getS_setS]
    by_cases e : l = a
    · subst e
      simp [hat]
    · simp [e]

/-! ### the layer operations as `setS` of a function of the layer -/

def sBatch (isA : Bool) (y : SLayer) : Option (List V) := if isA then y.aBatch else y.gBatch
def sCount (isA : Bool) (y : SLayer) : Nat := if isA then y.aCount else y.gCount
def sFac (isA : Bool) (y : SLayer) : Option V := if isA then y.aFactor else y.gFactor
def sSetBatch (isA : Bool) (y : SLayer) (b : Option (List V)) (n : Nat) : SLayer :=
  if isA then { y with aBatch := b, aCount := n } else { y with gBatch := b, gCount := n }

/-- one more micro-batch on top of what has been accumulated, and how many that makes -/
def acc {α} (add : α → α → α) (old : Option α) (leaf : α) : α :=
  match old with | none => leaf | some b => add b leaf
def accN {α} (old : Option α) (n : Nat) : Nat := match old with | none => 1 | some _ => n + 1

def svL (c : SCfg) (pass l : Nat) (isA : Bool) (x : SLayer) : SLayer :=
  sSetBatch isA x (some (acc (List.zipWith V.add) (sBatch isA x) ((ranks c).map fun r => V.cov l isA r pass)))
    (accN (sBatch isA x) (sCount isA x))

theorem save_eq (c : SCfg) (s : SSt) (l : Nat) (isA : Bool) :
    save c s l isA = setS s l (svL c s.pass l isA (getS s l)) := by
  unfold save svL
  cases isA <;> simp only [sSetBatch, sBatch, sCount, Bool.false_eq_true, if_false, if_true]
  · cases (getS s l).gBatch <;> rfl
  · cases (getS s l).aBatch <;> rfl

def rfL (c : SCfg) (d : Rat) (x : SLayer) : SLayer :=
  let fa := x.aFactor.getD .zero
  let fg := x.gFactor.getD .zero
  match c.method with
  | .eigen =>
    if c.prediv then
      { x with qa := some (.eigQ fa), qg := some (.eigQ fg),
               dgda := some (.outerInv (.eigD fg) (.eigD fa) d), da := none, dg := none }
    else
      { x with qa := some (.eigQ fa), da := some (.eigD fa), qg := some (.eigQ fg), dg := some (.eigD fg) }
  | .inverse => { x with aInv := some (.inv fa d), gInv := some (.inv fg d) }

theorem refresh_eq (c : SCfg) (s : SSt) (l : Nat) (d : Rat) :
    refresh c s l d = setS s l (rfL c d (getS s l)) := by
  unfold refresh rfL
  cases c.method
  · cases c.prediv <;> rfl
  · rfl

/-- the factor one rank holds after `update_*_factor` -/
def upd1 (l : Nat) (isA : Bool) (α : Rat) (batch : Option V) (count : Nat) (fac : Option V) : Option V :=
  match batch with
  | none => fac
  | some b => some (.ema α (fac.getD (.ident l isA)) (if count > 1 then .divN b count else b))

/-- the per-rank values `updateReduce` averages (a function of the layer alone) -/
def urVals (c : SCfg) (x : SLayer) (l : Nat) (isA : Bool) (α : Rat) : Option (List V) :=
  match sBatch isA x with
  | none => (sFac isA x).map fun f => (ranks c).map fun _ => f
  | some b => some (b.map fun br => V.ema α ((sFac isA x).getD (.ident l isA))
      (if sCount isA x > 1 then V.divN br (sCount isA x) else br))

theorem urVals_getD (c : SCfg) (x : SLayer) (l : Nat) (isA : Bool) (α : Rat) {r : Nat} (hr : r < c.world)
    (hb : ∀ b, sBatch isA x = some b → b.length = c.world) :
    (urVals c x l isA α).map (·.getD r .zero) =
      upd1 l isA α ((sBatch isA x).map (·.getD r .zero)) (sCount isA x) (sFac isA x) := by
  unfold urVals
  cases h : sBatch isA x with
  | none => cases sFac isA x <;> simp [upd1, List.getD, ranks, hr]
  | some b => simp [upd1, List.getD, hb b h ▸ hr]

theorem urVals_length {c : SCfg} {x : SLayer} {l : Nat} {isA : Bool} {α : Rat}
    (hb : ∀ b, sBatch isA x = some b → b.length = c.world) {vals : List V}
    (hv : urVals c x l isA α = some vals) : vals.length = c.world := by
  unfold urVals at hv
  cases h : sBatch isA x with
  | none =>
    rw [h] at hv
    obtain ⟨f, _, rfl⟩ := Option.map_eq_some_iff.mp hv
    simp [ranks]
  | some b =>
    rw [h] at hv
    cases hv
    rw [List.length_map, hb b h]

def urPut (x : SLayer) (isA : Bool) (v : Option V) : SLayer :=
  if isA then { x with aBatch := none, aFactor := v } else { x with gBatch := none, gFactor := v }

/-- the all-reduce of the per-rank values `vals`: the values registered afterwards and the factor every rank
    holds (a world of one keeps its tensor) -/
def redOut (world : Nat) (defs vals : List V) : List V × Option V :=
  if world == 1 then (defs, vals.head?) else (defs ++ [avgOf vals], some (V.ref defs.length))

theorem updateReduce_eq (c : SCfg) (s : SSt) (l : Nat) (isA : Bool) (α : Rat) :
    updateReduce c s l isA α =
      match urVals c (getS s l) l isA α with
      | none => s
      | some vals =>
        setS { s with defs := (redOut c.world s.defs vals).1 } l
          (urPut (getS s l) isA (redOut c.world s.defs vals).2) := by
  have h : updateReduce c s l isA α =
      match urVals c (getS s l) l isA α with
      | none => s
      | some vals =>
        if c.world == 1 then setS s l (urPut (getS s l) isA vals.head?)
        else setS { s with defs := s.defs ++ [avgOf vals] } l (urPut (getS s l) isA (some (V.ref s.defs.length))) := by
    cases isA <;> rfl
  rw [h]
  cases urVals c (getS s l) l isA α with
  | none => rfl
  | some vals =>
    unfold redOut
    dsimp only
    split <;> rfl

theorem updateReduce_cases (c : SCfg) (s : SSt) (l : Nat) (isA : Bool) (α : Rat) :
    updateReduce c s l isA α = s ∨
    ∃ d v, updateReduce c s l isA α = setS { s with defs := d } l (urPut (getS s l) isA v) := by
  rw [updateReduce_eq]
  cases urVals c (getS s l) l isA α with
  | none => exact .inl rfl
  | some vals => exact .inr ⟨_, _, rfl⟩

/-- the fields no layer operation touches -/
def fr (s : SSt) : Nat × Nat × Hyper × List V × Nat := (s.steps, s.pass, s.hyper, s.out, s.layers.length)

theorem fr_setS (s : SSt) (l x) : fr (setS s l x) = fr s := by simp [fr]

theorem fr_save (c : SCfg) (s : SSt) (l : Nat) (isA : Bool) : fr (save c s l isA) = fr s := by
  rw [save_eq]; exact fr_setS _ _ _

theorem save_mini (c : SCfg) (s : SSt) (l : Nat) (isA : Bool) : (save c s l isA).mini = s.mini := by
  rw [save_eq]; rfl

theorem save_defs (c : SCfg) (s : SSt) (l : Nat) (isA : Bool) : (save c s l isA).defs = s.defs := by
  rw [save_eq]; rfl

theorem fr_updateReduce (c : SCfg) (s : SSt) (l : Nat) (isA : Bool) (α : Rat) :
    fr (updateReduce c s l isA α) = fr s := by
  rcases updateReduce_cases c s l isA α with h | ⟨d, v, h⟩ <;> rw [h]
  exact fr_setS _ _ _

theorem updateReduce_mini (c : SCfg) (s : SSt) (l : Nat) (isA : Bool) (α : Rat) :
    (updateReduce c s l isA α).mini = s.mini := by
  rcases updateReduce_cases c s l isA α with h | ⟨d, v, h⟩ <;> rw [h]
  rfl

theorem fr_refresh (c : SCfg) (s : SSt) (l : Nat) (d : Rat) : fr (refresh c s l d) = fr s := by
  rw [refresh_eq]; exact fr_setS _ _ _

theorem refresh_defs (c : SCfg) (s : SSt) (l : Nat) (d : Rat) : (refresh c s l d).defs = s.defs := by
  rw [refresh_eq]; rfl

theorem fr_steps {s t : SSt} (h : fr s = fr t) : s.steps = t.steps := congrArg (·.1) h
theorem fr_hyper {s t : SSt} (h : fr s = fr t) : s.hyper = t.hyper := congrArg (·.2.2.1) h
theorem fr_out {s t : SSt} (h : fr s = fr t) : s.out = t.out := congrArg (·.2.2.2.1) h
theorem fr_len {s t : SSt} (h : fr s = fr t) : s.layers.length = t.layers.length := congrArg (·.2.2.2.2) h

theorem fr_resetBatch (c : SCfg) (s : SSt) : fr (resetBatch c s) = fr s :=
  foldl_pres fr _ (fun _ _ => fr_setS _ _ _) _ _

/-! ### layer frames

The fields of a layer fall into three groups: batches and counters (`save`, `updateReduce`,
`resetBatch` write them), factors (`updateReduce`, a load) and second-order data (`refresh`;
`KV.C05.soOf` at the end of the file). -/

def batOf (x : SLayer) : Option (List V) × Nat × Option (List V) × Nat := (x.aBatch, x.aCount, x.gBatch, x.gCount)

def facOf (x : SLayer) : Option V × Option V := (x.aFactor, x.gFactor)

theorem save_proj {γ : Type _} (p : SLayer → γ)
    (hp : ∀ (x : SLayer) a b e f, p { x with aBatch := a, aCount := b, gBatch := e, gCount := f } = p x)
    (c : SCfg) (s : SSt) (l : Nat) (isA : Bool) (l' : Nat) :
    p (getS (save c s l isA) l') = p (getS s l') := by
  rw [save_eq]
  refine getS_setS_proj p _ _ _ _ ?_
  cases isA <;> exact hp (getS s l) _ _ _ _

theorem updateReduce_proj {γ : Type _} (p : SLayer → γ)
    (hp : ∀ (x : SLayer) a b e f, p { x with aBatch := a, aFactor := b, gBatch := e, gFactor := f } = p x)
    (c : SCfg) (s : SSt) (l : Nat) (isA : Bool) (α : Rat) (l' : Nat) :
    p (getS (updateReduce c s l isA α) l') = p (getS s l') := by
  rcases updateReduce_cases c s l isA α with h | ⟨d, v, h⟩ <;> rw [h]
  refine getS_setS_proj p { s with defs := d } _ _ _ ?_
  cases isA <;> exact hp (getS s l) _ _ _ _

theorem rfL_proj {γ : Type _} (p : SLayer → γ)
    (hp : ∀ (x : SLayer) a b e f g h i,
      p { x with qa := a, da := b, qg := e, dg := f, dgda := g, aInv := h, gInv := i } = p x)
    (c : SCfg) (d : Rat) (x : SLayer) : p (rfL c d x) = p x := by
  unfold rfL
  cases c.method
  · cases c.prediv <;> exact hp x _ _ _ _ _ _ _
  · exact hp x _ _ _ _ _ _ _

theorem refresh_proj {γ : Type _} (p : SLayer → γ)
    (hp : ∀ (x : SLayer) a b e f g h i,
      p { x with qa := a, da := b, qg := e, dg := f, dgda := g, aInv := h, gInv := i } = p x)
    (c : SCfg) (s : SSt) (l : Nat) (d : Rat) (l' : Nat) :
    p (getS (refresh c s l d) l') = p (getS s l') := by
  rw [refresh_eq]
  exact getS_setS_proj p _ _ _ _ (rfL_proj p hp c d _)

def fwdBody (c : SCfg) (α : Rat) (s : SSt) (l : Nat) : SSt :=
  let s := save c s l true
  let m := s.mini.getD l 0 + 1
  let s := { s with mini := s.mini.set l m }
  if c.hook && m % c.accum == 0 then updateReduce c s l true α else s

def bwdBody (c : SCfg) (α : Rat) (s : SSt) (l : Nat) : SSt :=
  let s := save c s l false
  let m := s.mini.getD l 0
  if c.hook && m % c.accum == 0 then updateReduce c s l false α else s

def passBody (c : SCfg) (α : Rat) (s : SSt) : SSt :=
  (revIdxs c).foldl (bwdBody c α) ((idxs c).foldl (fwdBody c α) s)

theorem fwdBwd_eq (c : SCfg) (s : SSt) (t : Bool) :
    fwdBwd c s t =
      if !t then s else
      if s.steps % s.hyper.fus.val s.steps != 0 then { s with pass := s.pass + 1 } else
      { passBody c (s.hyper.decay.val s.steps) s with pass := (passBody c (s.hyper.decay.val s.steps) s).pass + 1 } :=
  rfl

theorem fr_fwdBody (c : SCfg) (α : Rat) (s : SSt) (l : Nat) : fr (fwdBody c α s l) = fr s := by
  unfold fwdBody
  extract_lets s1 m s2
  have : fr s2 = fr s := (fr_save c s l true)
  split
  · rw [fr_updateReduce, this]
  · exact this

theorem fr_bwdBody (c : SCfg) (α : Rat) (s : SSt) (l : Nat) : fr (bwdBody c α s l) = fr s := by
  unfold bwdBody
  extract_lets s1 m
  split
  · rw [fr_updateReduce, fr_save]
  · exact fr_save _ _ _ _

theorem fr_passBody (c : SCfg) (α : Rat) (s : SSt) : fr (passBody c α s) = fr s := by
  unfold passBody
  rw [foldl_pres fr _ (fr_bwdBody c α), foldl_pres fr _ (fr_fwdBody c α)]

theorem fwdBwd_frame (c : SCfg) (s : SSt) (t : Bool) :
    (fwdBwd c s t).steps = s.steps ∧ (fwdBwd c s t).hyper = s.hyper ∧
    (fwdBwd c s t).layers.length = s.layers.length := by
  rw [fwdBwd_eq]
  split
  · exact ⟨rfl, rfl, rfl⟩
  · split
    · exact ⟨rfl, rfl, rfl⟩
    · have h := fr_passBody c (s.hyper.decay.val s.steps) s
      exact ⟨(fr_steps h : (passBody c _ s).steps = _), (fr_hyper h : (passBody c _ s).hyper = _),
        (fr_len h : (passBody c _ s).layers.length = _)⟩

def slFresh (c : SCfg) (s : SSt) : SSt :=
  { SSt.init c s.hyper with steps := s.steps, pass := s.pass, defs := s.defs }

theorem getS_slFresh (c : SCfg) (s : SSt) (l : Nat) : getS (slFresh c s) l = {} :=
  getD_replicate_self ..

def slCopy (c : SCfg) (s : SSt) : SSt :=
  (idxs c).foldl (fun t l =>
    setS t l { getS t l with aFactor := (getS s l).aFactor, gFactor := (getS s l).gFactor }) (slFresh c s)

theorem saveLoad_eq (c : SCfg) (s : SSt) (f ci : Bool) :
    saveLoad c s f ci =
      if !f then slFresh c s else
      if !ci then slCopy c s else
      (idxs c).foldl (fun t l => refresh c t l ((slCopy c s).hyper.damping.val (slCopy c s).steps)) (slCopy c s) :=
  rfl

/-- the scalar fields a checkpoint carries (`out` is not among them; `mini` and `defs`, which `fr`
    leaves out, are) -/
def sc (s : SSt) : Nat × Hyper × List V × Nat × List Nat × Nat :=
  (s.steps, s.hyper, s.defs, s.pass, s.mini, s.layers.length)

theorem sc_setS (s : SSt) (l x) : sc (setS s l x) = sc s := by simp [sc]

theorem sc_saveLoad (c : SCfg) (s : SSt) (f ci : Bool) : sc (saveLoad c s f ci) = sc (slFresh c s) := by
  have h : sc (slCopy c s) = sc (slFresh c s) := foldl_pres sc _ (fun _ _ => sc_setS _ _ _) _ _
  rw [saveLoad_eq]
  split
  · rfl
  · split
    · exact h
    · exact (foldl_pres sc _ (fun t l => by rw [refresh_eq, sc_setS]) _ _).trans h

theorem saveLoad_scalars (c : SCfg) (s : SSt) (f ci : Bool) :
    (saveLoad c s f ci).steps = s.steps ∧ (saveLoad c s f ci).hyper = s.hyper ∧
    (saveLoad c s f ci).defs = s.defs ∧ (saveLoad c s f ci).pass = s.pass ∧
    (saveLoad c s f ci).mini = List.replicate c.nLayers 0 ∧
    (saveLoad c s f ci).layers.length = c.nLayers := by
  have h := sc_saveLoad c s f ci
  simp only [sc, slFresh, SSt.init, List.length_replicate, Prod.mk.injEq] at h
  exact h

/-- factor update in `step` (no-hook mode) -/
def stepA (c : SCfg) (b : Bool) (α : Rat) (s : SSt) : SSt :=
  if b then
    (revIdxs c).foldl (fun s l =>
      let s := { s with mini := s.mini.set l 0 }
      updateReduce c (updateReduce c s l true α) l false α) s
  else s

/-- inverse phase -/
def stepB (c : SCfg) (b : Bool) (d : Rat) (s : SSt) : SSt :=
  if b then (revIdxs c).foldl (fun s l => refresh c s l d) s else s

/-- gradient phase -/
def stepOut (c : SCfg) (d : Rat) (kl : Option Rat) (lr : Rat) (s : SSt) : List V :=
  let vs := (idxs c).map fun l => precond c s l d
  match kl with
  | none => vs
  | some k =>
    let sum := (revIdxs c).foldl (fun acc l =>
      let t := V.inner (vs.getD l .garbage) (.rawGrad l s.steps)
      match acc with | none => some t | some a => some (V.add a t)) (none : Option V)
    let n := V.nu k lr (sum.getD .zero)
    vs.map fun v => V.scale n v

/-- the record update that closes `step` -/
def stepFin (c : SCfg) (d : Rat) (s2 : SSt) : SSt :=
  { s2 with steps := s2.steps + 1, mini := List.replicate c.nLayers 0,
            out := stepOut c d (s2.hyper.kl.val s2.steps) (s2.hyper.lr.val s2.steps) s2 }

theorem step_eq0 (c : SCfg) (s : SSt) :
    step c s =
      let s1 := stepA c (!c.hook && s.steps % s.hyper.fus.val s.steps == 0) (s.hyper.decay.val s.steps) s
      stepFin c (s.hyper.damping.val s.steps)
        (stepB c (s1.steps % s.hyper.ius.val s.steps == 0) (s.hyper.damping.val s.steps) s1) := by
  rfl

theorem fr_stepA (c : SCfg) (b : Bool) (α : Rat) (s : SSt) : fr (stepA c b α s) = fr s := by
  unfold stepA
  split
  · refine foldl_pres fr _ (fun t l => ?_) _ _
    simp only [fr_updateReduce]; rfl
  · rfl

theorem stepB_pres {γ : Type _} (p : SSt → γ) (c : SCfg) (b : Bool) (d : Rat)
    (hp : ∀ t l, p (refresh c t l d) = p t) (s : SSt) : p (stepB c b d s) = p s := by
  unfold stepB
  split
  · exact foldl_pres p _ hp _ _
  · rfl

theorem step_eq (c : SCfg) (s : SSt) :
    step c s =
      let s1 := stepA c (!c.hook && s.steps % s.hyper.fus.val s.steps == 0) (s.hyper.decay.val s.steps) s
      let s2 := stepB c (s.steps % s.hyper.ius.val s.steps == 0) (s.hyper.damping.val s.steps) s1
      { s2 with steps := s.steps + 1, mini := List.replicate c.nLayers 0,
                out := stepOut c (s.hyper.damping.val s.steps) (s.hyper.kl.val s.steps) (s.hyper.lr.val s.steps) s2 } := by
  rw [step_eq0, stepFin]
  have h1 := fr_stepA c (!c.hook && s.steps % s.hyper.fus.val s.steps == 0) (s.hyper.decay.val s.steps) s
  simp only [fr_steps h1]
  have h2 := (stepB_pres fr c (s.steps % s.hyper.ius.val s.steps == 0) (s.hyper.damping.val s.steps)
    (fun t l => fr_refresh c t l _) _).trans h1
  simp only [fr_steps h2, fr_hyper h2]

theorem stepA_proj {γ : Type _} (p : SLayer → γ)
    (hp : ∀ (x : SLayer) a b e f, p { x with aBatch := a, aFactor := b, gBatch := e, gFactor := f } = p x)
    (c : SCfg) (b : Bool) (α : Rat) (s : SSt) (l' : Nat) :
    p (getS (stepA c b α s) l') = p (getS s l') := by
  unfold stepA
  split
  · refine foldl_pres (fun t => p (getS t l')) _ (fun t l => ?_) _ _
    simp only [updateReduce_proj p hp]; rfl
  · rfl

theorem fwdBwd_off (c : SCfg) (s : SSt) (h : s.steps % s.hyper.fus.val s.steps ≠ 0) :
    fwdBwd c s true = { s with pass := s.pass + 1 } := by
  unfold fwdBwd
  simp [h]

theorem step_layers (c : SCfg) (s : SSt) (l : Nat) :
    getS (step c s) l =
      getS (stepB c (s.steps % s.hyper.ius.val s.steps == 0) (s.hyper.damping.val s.steps)
        (stepA c (!c.hook && s.steps % s.hyper.fus.val s.steps == 0) (s.hyper.decay.val s.steps) s)) l := by
  rw [step_eq]; rfl

theorem stepB_rfL (c : SCfg) (d : Rat) (s : SSt) (l : Nat) (hl : l < c.nLayers)
    (hlen : s.layers.length = c.nLayers) : getS (stepB c true d s) l = rfL c d (getS s l) := by
  unfold stepB
  simp only [if_true, refresh_eq]
  have hnd : (revIdxs c).Nodup := List.pairwise_reverse.mpr (List.nodup_range.imp Ne.symm)
  rw [getS_foldl_setS (fun _ => rfL c d) hnd, if_pos ⟨mem_revIdxs.mpr hl, hlen ▸ hl⟩]

def wh (h : Hyper) (s : SSt) : SSt := { s with hyper := h }

theorem updateReduce_wh (c : SCfg) (h : Hyper) (s : SSt) (l : Nat) (isA : Bool) (α : Rat) :
    updateReduce c (wh h s) l isA α = wh h (updateReduce c s l isA α) := by
  rw [updateReduce_eq, updateReduce_eq]
  have e : getS (wh h s) l = getS s l := rfl
  rw [e]
  cases urVals c (getS s l) l isA α <;> rfl

theorem refresh_wh (c : SCfg) (h : Hyper) (s : SSt) (l : Nat) (d : Rat) :
    refresh c (wh h s) l d = wh h (refresh c s l d) := by
  rw [refresh_eq, refresh_eq]; rfl

theorem stepA_wh (c : SCfg) (h : Hyper) (b : Bool) (α : Rat) (s : SSt) :
    stepA c b α (wh h s) = wh h (stepA c b α s) := by
  unfold stepA
  split
  · refine List.foldl_hom (wh h) (fun t l => ?_)
    rw [← updateReduce_wh, ← updateReduce_wh]; rfl
  · rfl

theorem stepB_wh (c : SCfg) (h : Hyper) (b : Bool) (d : Rat) (s : SSt) :
    stepB c b d (wh h s) = wh h (stepB c b d s) := by
  unfold stepB
  split
  · exact List.foldl_hom (wh h) (fun t l => refresh_wh c h t l d)
  · rfl

theorem stepOut_wh (c : SCfg) (h : Hyper) (d : Rat) (kl : Option Rat) (lr : Rat) (s : SSt) :
    stepOut c d kl lr (wh h s) = stepOut c d kl lr s := rfl

theorem step_wh (c : SCfg) (s : SSt) (h' : Hyper)
    (e1 : h'.fus.val s.steps = s.hyper.fus.val s.steps) (e2 : h'.ius.val s.steps = s.hyper.ius.val s.steps)
    (e3 : h'.damping.val s.steps = s.hyper.damping.val s.steps) (e4 : h'.decay.val s.steps = s.hyper.decay.val s.steps)
    (e5 : h'.kl.val s.steps = s.hyper.kl.val s.steps) (e6 : h'.lr.val s.steps = s.hyper.lr.val s.steps) :
    step c (wh h' s) = wh h' (step c s) := by
  rw [step_eq, step_eq]
  have p1 : (wh h' s).steps = s.steps := rfl
  have p2 : (wh h' s).hyper = h' := rfl
  simp only [p1, p2, e1, e2, e3, e4, e5, e6, stepA_wh, stepB_wh, stepOut_wh]
  rfl

end KV.Spec

namespace KV.C05
open KV KV.Precond KV.Spec

/-- the second-order data of a layer, as the fields `precond` reads -/
def soOf (x : SLayer) : List (Option V) := [x.qa, x.da, x.qg, x.dg, x.dgda, x.aInv, x.gInv]

end KV.C05
