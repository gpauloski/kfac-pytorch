/-
Refinement Precond ⟶ Spec: the value view of the distributed state (`lv`, `cell`), cell-wise effect
descriptions (`Eff`, `Neutral`), the fold lemmas, and what a cell program (`Cell.run`) and a broadcast
(`bcast`) do in these terms.  Core Lean only.
-/
import KfacVerif.Lemmas.PrecondOps

namespace KV.Refine
open KV KV.Precond

/-- the real code has raised no exception so far -/
abbrev OK (s : St) : Prop := s.err = none

/-- what C06 proves of every KAISA assignment (and `KFACPreconditioner.__init__` enforces about
    pre-division), restated for the abstract `Assign`: the clauses of `C03.CfgOK`, which make the scripts
    match, and (the `2`) those the values depend on: `world_pos`, `prediv_coloc`, `nobi_single` (also in
    `C13.AsgOK`, with its consequence `invG l = invA l` spelt out), `nobg_all`, `src_worker`, `rows` -/
structure CfgOK2 (c : Cfg) : Prop where
  world_pos : 0 < c.world
  accum_pos : 0 < c.accum
  workers_lt : ∀ l r, r ∈ c.asg.workers l → r < c.world
  invA_mem : ∀ l, c.asg.invA l ∈ c.asg.workers l
  invG_mem : ∀ l, c.asg.invG l ∈ c.asg.workers l
  /-- pre-divided eigenvalues require co-located factors -/
  prediv_coloc : c.prediv = true → ∀ l, c.asg.invA l = c.asg.invG l
  /-- without inverse broadcasts (MEM-OPT) the inverse worker is the only gradient worker -/
  nobi_single : c.asg.bcastInv = false → ∀ l, c.asg.workers l = [c.asg.invA l]
  /-- without gradient broadcasts (COMM-OPT) every rank is a gradient worker -/
  nobg_all : c.asg.bcastGrad = false → ∀ l r, r < c.world → r ∈ c.asg.workers l
  recv_lt : ∀ r r', r' ∈ c.asg.recv r → r' < c.world
  src_recv : ∀ r l, r < c.world → c.asg.src r l ∈ c.asg.recv r
  src_worker : ∀ r l, r < c.world → c.asg.src r l ∈ c.asg.workers l
  /-- receiver groups cover the world; each is represented by its first member -/
  rows : ∀ r, r < c.world → ∃ r0, r0 < c.world ∧ (c.asg.recv r0).head? = some r0 ∧ r ∈ c.asg.recv r0

theorem CfgOK2.inv_workers {c : Cfg} (hc : CfgOK2 c) (l : Nat) :
    c.asg.invA l ∈ c.asg.workers l ∧ c.asg.invG l ∈ c.asg.workers l ∧ c.asg.invA l < c.world ∧ c.asg.invG l < c.world :=
  ⟨hc.invA_mem l, hc.invG_mem l, hc.workers_lt l _ (hc.invA_mem l), hc.workers_lt l _ (hc.invG_mem l)⟩

/-- change only the bookkeeping of collectives (the script and the counter): all that getters and `issue` do -/
def tch (s : St) (sc : List GAct) (n : Nat) : St := { s with script := sc, nIssued := n }

def rsSlot (sl : Option Slot) : Option Slot :=
  match sl with
  | none => none
  | some x => match x.pend with
    | .ready => some x
    | .issued _ => some { x with pend := .ready }
    | .queued _ => some x

theorem rsSlot_eq (sl : Option Slot) : rsSlot sl = HR.rdVal sl := by
  rcases sl with _ | ⟨v, _ | _ | _⟩ <;> rfl

theorem issue_eq (s : St) (m : List Nat) (d : Desc) :
    issue s m d = (tch s (.issue m d :: s.script) (s.nIssued + 1), s.nIssued) := rfl

theorem emit_eq (s : St) (a : GAct) : emit s a = tch s (a :: s.script) s.nIssued := rfl

@[simp] theorem tch_tch (s a n b m) : tch (tch s a n) b m = tch s b m := rfl
@[simp] theorem tch_script (s a n) : (tch s a n).script = a := rfl
@[simp] theorem tch_nIssued (s a n) : (tch s a n).nIssued = n := rfl
@[simp] theorem tch_err (s a n) : (tch s a n).err = s.err := rfl
@[simp] theorem tch_ranks (s a n) : (tch s a n).ranks = s.ranks := rfl
@[simp] theorem tch_steps (s a n) : (tch s a n).steps = s.steps := rfl
@[simp] theorem tch_mini (s a n) : (tch s a n).mini = s.mini := rfl
@[simp] theorem tch_pass (s a n) : (tch s a n).pass = s.pass := rfl
@[simp] theorem tch_hyper (s a n) : (tch s a n).hyper = s.hyper := rfl
@[simp] theorem tch_defs (s a n) : (tch s a n).defs = s.defs := rfl
@[simp] theorem tch_outGrads (s a n) : (tch s a n).outGrads = s.outGrads := rfl
@[simp] theorem tch_bucket (s a n) : (tch s a n).bucket = s.bucket := rfl
@[simp] theorem tch_nextReq (s a n) : (tch s a n).nextReq = s.nextReq := rfl
@[simp] theorem getL_tch (s a n r l) : getL (tch s a n) r l = getL s r l := rfl

/-- a getter read under an `if` is a `tch` whose components carry the `if` -/
def iteS (b : Prop) [Decidable b] (a a' : List GAct) : List GAct := if b then a else a'
def iteN (b : Prop) [Decidable b] (n n' : Nat) : Nat := if b then n else n'
def rsIf (b : Prop) [Decidable b] (o : Option Slot) : Option Slot := if b then rsSlot o else o

theorem readIf_pair (b : Prop) [Decidable b] (s : St) (a n) (o : Option Slot) :
    (if b then (tch s a n, rsSlot o) else (s, o)) = (tch s (iteS b a s.script) (iteN b n s.nIssued), rsIf b o) := by
  unfold iteS iteN rsIf; split <;> rfl

theorem readUnless_pair (b : Prop) [Decidable b] (s : St) (a n) (o : Option Slot) :
    (if b then (s, o) else (tch s a n, rsSlot o)) =
      (tch s (iteS b s.script a) (iteN b s.nIssued n), rsIf (¬ b) o) := by
  unfold iteS iteN rsIf
  by_cases h : b
  · rw [if_pos h, if_pos h, if_pos h, if_neg (not_not_intro h)]; rfl
  · rw [if_neg h, if_neg h, if_neg h, if_pos h]

@[simp] theorem rsIf_isSome (b : Prop) [Decidable b] (o : Option Slot) : (rsIf b o).isSome = o.isSome := by
  unfold rsIf; split
  · rw [rsSlot_eq]; exact rdVal_isSome o
  · rfl

@[simp] theorem rsIf_eq_none (b : Prop) [Decidable b] (o : Option Slot) : (rsIf b o = none) = (o = none) := by
  rw [← Option.not_isSome_iff_eq_none, ← Option.not_isSome_iff_eq_none, rsIf_isSome]

@[simp] theorem setL_err (s r l x) : (setL s r l x).err = s.err := rfl
@[simp] theorem setL_script (s r l x) : (setL s r l x).script = s.script := rfl
@[simp] theorem setL_nIssued (s r l x) : (setL s r l x).nIssued = s.nIssued := rfl
@[simp] theorem setL_steps (s r l x) : (setL s r l x).steps = s.steps := rfl
@[simp] theorem setL_mini (s r l x) : (setL s r l x).mini = s.mini := rfl
@[simp] theorem setL_pass (s r l x) : (setL s r l x).pass = s.pass := rfl
@[simp] theorem setL_hyper (s r l x) : (setL s r l x).hyper = s.hyper := rfl
@[simp] theorem setL_defs (s r l x) : (setL s r l x).defs = s.defs := rfl
@[simp] theorem setL_outGrads (s r l x) : (setL s r l x).outGrads = s.outGrads := rfl
@[simp] theorem setL_bucket (s r l x) : (setL s r l x).bucket = s.bucket := rfl
@[simp] theorem setL_nextReq (s r l x) : (setL s r l x).nextReq = s.nextReq := rfl

theorem fail_ranks (s r w) : (fail s r w).ranks = s.ranks := Precond.fail_ranks s r w

theorem reads_tch (s : St) (r : Nat) (x : LState) (fs : List Fld) :
    ∃ a, Cell.reads s r x fs = tch s a s.nIssued := by
  obtain ⟨a, e⟩ := Cell.reads_eq s r x fs
  exact ⟨a ++ s.script, e⟩

/-- the values held by one rank for one layer (futures forgotten) -/
structure LV where
  aBatch : Option V := none
  aCount : Nat := 0
  gBatch : Option V := none
  gCount : Nat := 0
  aFactor : Option V := none
  gFactor : Option V := none
  qa : Option V := none
  da : Option V := none
  qg : Option V := none
  dg : Option V := none
  dgda : Option V := none
  aInv : Option V := none
  gInv : Option V := none
  grad : Option V := none

abbrev sv (o : Option Slot) : Option V := o.map (fun x => x.val)

def lv (x : LState) : LV :=
  { aBatch := x.aBatch, aCount := x.aCount, gBatch := x.gBatch, gCount := x.gCount,
    aFactor := sv x.aFactor, gFactor := sv x.gFactor, qa := sv x.qa, da := sv x.da, qg := sv x.qg,
    dg := sv x.dg, dgda := sv x.dgda, aInv := sv x.aInv, gInv := sv x.gInv, grad := sv x.grad }

def cell (s : St) (r l : Nat) : LV := lv (getL s r l)

theorem cell_of_ranks {s s' : St} (e : s'.ranks = s.ranks) (r l) : cell s' r l = cell s r l := by
  simp only [cell, getL, e]

def LV.get (v : LV) : Fld → Option V
  | .aFactor => v.aFactor | .gFactor => v.gFactor | .qa => v.qa | .da => v.da | .qg => v.qg
  | .dg => v.dg | .dgda => v.dgda | .aInv => v.aInv | .gInv => v.gInv | .grad => v.grad

def LV.set (v : LV) (f : Fld) (o : Option V) : LV :=
  match f with
  | .aFactor => { v with aFactor := o } | .gFactor => { v with gFactor := o } | .qa => { v with qa := o }
  | .da => { v with da := o } | .qg => { v with qg := o } | .dg => { v with dg := o }
  | .dgda => { v with dgda := o } | .aInv => { v with aInv := o } | .gInv => { v with gInv := o }
  | .grad => { v with grad := o }

theorem lv_get (x : LState) (f : Fld) : (lv x).get f = sv (x.get f) := by cases f <;> rfl
theorem lv_set (x : LState) (f : Fld) (o : Option Slot) : lv (x.set f o) = (lv x).set f (sv o) := by
  cases f <;> rfl
theorem LV.set_set (v : LV) (f : Fld) (o : Option V) : (v.set f o).set f o = v.set f o := by cases f <;> rfl
theorem LV.set_get (v : LV) (f : Fld) : v.set f (v.get f) = v := by cases f <;> rfl

def noGrad (v : LV) : LV := { v with grad := none }

/-- the same globals: all but `ranks`, `err` and the bookkeeping of collectives (`script`, `nIssued`, `bucket`, `nextReq`) -/
structure Same (s s' : St) : Prop where
  steps : s'.steps = s.steps
  mini : s'.mini = s.mini
  pass : s'.pass = s.pass
  hyper : s'.hyper = s.hyper
  defs : s'.defs = s.defs
  outGrads : s'.outGrads = s.outGrads

theorem Same.refl (s) : Same s s := ⟨rfl, rfl, rfl, rfl, rfl, rfl⟩

theorem Same.trans {s s' s''} (h1 : Same s s') (h2 : Same s' s'') : Same s s'' :=
  ⟨h2.steps.trans h1.steps, h2.mini.trans h1.mini, h2.pass.trans h1.pass, h2.hyper.trans h1.hyper,
   h2.defs.trans h1.defs, h2.outGrads.trans h1.outGrads⟩

theorem same_setL (s r l x) : Same s (setL s r l x) := ⟨rfl, rfl, rfl, rfl, rfl, rfl⟩

theorem Same.withDefs {s s'} (h : Same s s') (d : List V) : Same { s with defs := d } { s' with defs := d } :=
  { h with defs := rfl }

/-- `s'` has the globals of `s`; the cells in `K` were transformed by `G`, all others kept their
    values -/
structure Eff (c : Cfg) (s s' : St) (K : Nat → Nat → Prop) (G : Nat → Nat → LV → LV) : Prop where
  same : Same s s'
  shape : Shape c s'
  hit : ∀ r l, K r l → cell s' r l = G r l (cell s r l)
  miss : ∀ r l, ¬ K r l → cell s' r l = cell s r l

/-- nothing but bookkeeping changed -/
structure Neutral (c : Cfg) (s s' : St) : Prop where
  same : Same s s'
  shape : Shape c s'
  cell : ∀ r l, cell s' r l = cell s r l

theorem Neutral.refl {c s} (h : Shape c s) : Neutral c s s := ⟨Same.refl s, h, fun _ _ => rfl⟩

theorem Neutral.trans {c s s' s''} (h1 : Neutral c s s') (h2 : Neutral c s' s'') : Neutral c s s'' :=
  ⟨h1.same.trans h2.same, h2.shape, fun r l => (h2.cell r l).trans (h1.cell r l)⟩

theorem Neutral.congr {c s s' s''} (n : Neutral c s s') (hsm : Same s' s'') (e : s''.ranks = s'.ranks) :
    Neutral c s s'' :=
  ⟨n.same.trans hsm, n.shape.of_ranks e, fun r l => (cell_of_ranks e r l).trans (n.cell r l)⟩

theorem Neutral.withDefs {c s s'} (n : Neutral c s s') (d : List V) :
    Neutral c { s with defs := d } { s' with defs := d } :=
  ⟨n.same.withDefs d, n.shape.of_ranks rfl, n.cell⟩

theorem neutral_tch {c s} (h : Shape c s) (a n) : Neutral c s (tch s a n) :=
  (Neutral.refl h).congr ⟨rfl, rfl, rfl, rfl, rfl, rfl⟩ rfl

theorem Eff.keeps {γ} (π : LV → γ) {c s s' K G} (e : Eff c s s' K G) (hG : ∀ r l v, π (G r l v) = π v) (r l : Nat) :
    π (cell s' r l) = π (cell s r l) := by
  by_cases k : K r l
  · rw [e.hit r l k, hG]
  · rw [e.miss r l k]

theorem Eff.neutral {c s s' K} (h : Eff c s s' K (fun _ _ v => v)) : Neutral c s s' :=
  ⟨h.same, h.shape, h.keeps (fun v => v) fun _ _ _ => rfl⟩

theorem Neutral.eff {c s s1 s2 K G} (n : Neutral c s s1) (e : Eff c s1 s2 K G) : Eff c s s2 K G :=
  ⟨n.same.trans e.same, e.shape, fun r l k => by rw [e.hit r l k, n.cell], fun r l k => by rw [e.miss r l k, n.cell]⟩

theorem Eff.setL {c s} (h : Shape c s) {r l : Nat} (hr : r < c.world) (hl : l < c.layers.length)
    (x : LState) (G : Nat → Nat → LV → LV) (hx : lv x = G r l (cell s r l)) :
    Eff c s (setL s r l x) (fun r' l' => r' = r ∧ l' = l) G := by
  refine ⟨same_setL .., h.setL .., ?_, fun r' l' hk => congrArg lv (getL_setL_ne s x hk)⟩
  rintro r' l' ⟨rfl, rfl⟩
  rw [cell, getL_setL_same h hr hl, hx]

theorem Eff.id_of {c s} (hs : Shape c s) (K : Nat → Nat → Prop) (G : Nat → Nat → LV → LV)
    (h : ∀ r l, K r l → G r l (cell s r l) = cell s r l) : Eff c s s K G :=
  ⟨Same.refl s, hs, fun r l k => (h r l k).symm, fun _ _ _ => rfl⟩

theorem Eff.comp {c s s1 s2 K G1 G2} (h1 : Eff c s s1 K G1) (h2 : Eff c s1 s2 K G2) :
    Eff c s s2 K (fun r l v => G2 r l (G1 r l v)) :=
  ⟨h1.same.trans h2.same, h2.shape, fun r l k => by rw [h2.hit r l k, h1.hit r l k],
   fun r l k => by rw [h2.miss r l k, h1.miss r l k]⟩

/-- a cell hit twice must not notice -/
theorem Eff.union {c s s1 s2 K1 K2 G} (e1 : Eff c s s1 K1 G) (e2 : Eff c s1 s2 K2 G)
    (h : ∀ r l, K1 r l → K2 r l → G r l (G r l (cell s r l)) = G r l (cell s r l)) :
    Eff c s s2 (fun r l => K1 r l ∨ K2 r l) G := by
  refine ⟨e1.same.trans e2.same, e2.shape, fun r l k => ?_, fun r l k => ?_⟩
  · by_cases k2 : K2 r l
    · rw [e2.hit r l k2]
      by_cases k1 : K1 r l
      · rw [e1.hit r l k1, h r l k1 k2]
      · rw [e1.miss r l k1]
    · rw [e2.miss r l k2, e1.hit r l (k.resolve_right k2)]
  · rw [e2.miss r l (fun k2 => k (.inr k2)), e1.miss r l (fun k1 => k (.inl k1))]

theorem Eff.congrK {c s s' K K' G} (h : Eff c s s' K G) (hk : ∀ r l, K r l ↔ K' r l) : Eff c s s' K' G :=
  ⟨h.same, h.shape, fun r l k => h.hit r l ((hk r l).mpr k), fun r l k => h.miss r l (fun k' => k ((hk r l).mp k'))⟩

theorem Eff.congrG {c s s' K G G'} (h : Eff c s s' K G)
    (hg : ∀ r l, K r l → G r l (cell s r l) = G' r l (cell s r l)) : Eff c s s' K G' :=
  ⟨h.same, h.shape, fun r l k => by rw [h.hit r l k, hg r l k], h.miss⟩

/-- an effect on the cells of layer `l` at the ranks in `P`: the form every per-layer operation has -/
theorem Eff.on {c s s' G} {P : Nat → Prop} {l : Nat} (e : Eff c s s' (fun r' l' => P r' ∧ l' = l) G) {r : Nat}
    (hr : P r) : cell s' r l = G r l (cell s r l) := e.hit r l ⟨hr, rfl⟩

theorem Eff.other {c s s' G} {P : Nat → Prop} {l : Nat} (e : Eff c s s' (fun r' l' => P r' ∧ l' = l) G) (r : Nat)
    {l' : Nat} (hne : l' ≠ l) : cell s' r l' = cell s r l' := e.miss r l' fun k => hne k.2

/-! ### folds -/

/-- with `Q := OK`: an exception, once raised, stays -/
theorem foldl_mono {α} (Q : St → Prop) (f : St → α → St) (hmono : ∀ s x, Q (f s x) → Q s) (xs : List α)
    (s : St) (h : Q (xs.foldl f s)) : Q s := by
  induction xs generalizing s with
  | nil => exact h
  | cons a t ih => exact hmono _ _ (ih _ h)

theorem ite_ok {s s' : St} {b : Bool} (hmono : OK s' → OK s) (he : OK (if b then s' else s)) : OK s := by
  cases b
  · exact he
  · exact hmono he

theorem foldl_rel {α τ} (R : St → τ → Prop) (f : St → α → St) (g : τ → α → τ)
    (xs : List α) (hmono : ∀ s x, OK (f s x) → OK s)
    (hstep : ∀ s t x, x ∈ xs → R s t → OK (f s x) → R (f s x) (g t x))
    (s : St) (t : τ) (h0 : R s t) (he : OK (xs.foldl f s)) : R (xs.foldl f s) (xs.foldl g t) := by
  induction xs generalizing s t with
  | nil => exact h0
  | cons a xs ih =>
    exact ih (fun s t x hx => hstep s t x (List.mem_cons_of_mem _ hx)) _ _
      (hstep s t a List.mem_cons_self h0 (foldl_mono OK f hmono xs _ he)) he

/-- folding steps that each transform their own cells by `G`.  A step runs in a state that is itself such
    an effect of the initial one.  `Q` is the side condition under which the steps are described (`OK` for
    steps that may raise, `True` otherwise). -/
theorem foldl_effQ {α} (Q : St → Prop) (c : Cfg) (f : St → α → St) (K : α → Nat → Nat → Prop)
    (G : Nat → Nat → LV → LV) (xs : List α) (s0 : St)
    (hG : (∀ r l v, G r l (G r l v) = G r l v) ∨ xs.Pairwise (fun x y => ∀ r l, K x r l → ¬ K y r l))
    (hmono : ∀ s x, Q (f s x) → Q s)
    (hstep : ∀ s x K', x ∈ xs → Eff c s0 s K' G → Q (f s x) → Eff c s (f s x) (K x) G)
    (hs : Shape c s0) (he : Q (xs.foldl f s0)) :
    Eff c s0 (xs.foldl f s0) (fun r l => ∃ x, x ∈ xs ∧ K x r l) G := by
  -- the fold continued from a state reached by an effect on `K0`
  suffices key : ∀ (s : St) (K0 : Nat → Nat → Prop), Eff c s0 s K0 G →
      ((∀ r l v, G r l (G r l v) = G r l v) ∨ ∀ x, x ∈ xs → ∀ r l, K0 r l → ¬ K x r l) → Q (xs.foldl f s) →
      Eff c s0 (xs.foldl f s) (fun r l => K0 r l ∨ ∃ x, x ∈ xs ∧ K x r l) G from
    (key s0 (fun _ _ => False) (Eff.id_of hs _ _ fun _ _ k => k.elim) (.inr fun _ _ _ _ k => k.elim) he).congrK
      fun _ _ => ⟨fun h => h.resolve_left id, .inr⟩
  clear he
  induction xs with
  | nil => exact fun s K0 e0 _ _ => e0.congrK fun _ _ => ⟨.inl, fun h => h.elim id fun ⟨_, hx, _⟩ => nomatch hx⟩
  | cons a t ih =>
    intro s K0 e0 h0 he
    have e1 := hstep s a K0 List.mem_cons_self e0 (foldl_mono Q f hmono t _ he)
    have e01 := e0.union e1 fun r l k0 ka =>
      h0.elim (fun h => h r l _) fun h => absurd ka (h a List.mem_cons_self r l k0)
    refine (ih (hG.imp_right fun h => (List.pairwise_cons.mp h).2)
      (fun s x K' hx => hstep s x K' (List.mem_cons_of_mem _ hx)) (f s a) _ e01 ?_ he).congrK fun r l => ?_
    · refine h0.elim .inl fun h0 => hG.imp_right fun hp x hx r l k => ?_
      exact k.elim (h0 x (List.mem_cons_of_mem _ hx) r l) ((List.pairwise_cons.mp hp).1 x hx r l)
    · simp only [List.mem_cons, exists_eq_or_imp, or_assoc]

theorem ranks_eff (Q : St → Prop) {c : Cfg} (f : St → Nat → St) (l : Nat) (G : Nat → Nat → LV → LV)
    (ms : List Nat) (s0 : St) (hG : (∀ r l v, G r l (G r l v) = G r l v) ∨ ms.Pairwise (· ≠ ·))
    (hmono : ∀ s r, Q (f s r) → Q s)
    (hstep : ∀ s r K', r ∈ ms → Eff c s0 s K' G → Q (f s r) →
      Eff c s (f s r) (fun r' l' => r' = r ∧ l' = l) G)
    (hs : Shape c s0) (he : Q (ms.foldl f s0)) :
    Eff c s0 (ms.foldl f s0) (fun r' l' => r' ∈ ms ∧ l' = l) G := by
  refine (foldl_effQ Q c f (fun x r' l' => r' = x ∧ l' = l) G ms s0
    (hG.imp_right fun h => h.imp fun hne r l' h1 h2 => hne (h1.1.symm.trans h2.1)) hmono hstep hs he).congrK
    fun r' l' => ⟨?_, ?_⟩
  · rintro ⟨x, hx, rfl, h2⟩; exact ⟨hx, h2⟩
  · rintro ⟨h1, h2⟩; exact ⟨r', h1, rfl, h2⟩

theorem forRanks_eff (Q : St → Prop) {c : Cfg} (f : St → Nat → St) (l : Nat) (G : Nat → Nat → LV → LV) (s0 : St)
    (hmono : ∀ s r, Q (f s r) → Q s)
    (hstep : ∀ s r K', r < c.world → Eff c s0 s K' G → Q (f s r) →
      Eff c s (f s r) (fun r' l' => r' = r ∧ l' = l) G)
    (hs : Shape c s0) (he : Q (forRanks c s0 f)) :
    Eff c s0 (forRanks c s0 f) (fun r' l' => r' < c.world ∧ l' = l) G :=
  (ranks_eff Q f l G (worldRanks c) s0 (.inr List.nodup_range) hmono
    (fun s r K' hr => hstep s r K' (mem_worldRanks.mp hr)) hs he).congrK fun _ _ => and_congr_left' mem_worldRanks

/-- the loops of `resetBatch`, `clearGrads`, `loadFacs`: every cell is visited once -/
theorem mapCells_eff {c s} (hs : Shape c s) {g : Nat → Nat → LState → LState} {G : Nat → Nat → LV → LV}
    (hg : ∀ r l x, lv (g r l x) = G r l (lv x)) :
    Eff c s (mapCells c g s) (fun r l => r < c.world ∧ l < c.layers.length) G := by
  refine (foldl_effQ (fun _ => True) c _ (fun x r l => r = x ∧ l < c.layers.length) G (worldRanks c) s
    (.inr (List.nodup_range.imp fun hne r l h1 h2 => hne (h1.1.symm.trans h2.1)))
    (fun _ _ _ => trivial) (fun t x _ hx e _ => ?_) hs trivial).congrK fun r l => ⟨?_, ?_⟩
  · refine (foldl_effQ (fun _ => True) c _ (fun y r l => r = x ∧ l = y) G (layerIdxs c) t
      (.inr (List.nodup_range.imp fun hne r l h1 h2 => hne (h1.2.symm.trans h2.2)))
      (fun _ _ _ => trivial) (fun u y _ hy e' _ => ?_) e.shape trivial).congrK fun r l => ⟨?_, ?_⟩
    · exact Eff.setL e'.shape (mem_worldRanks.mp hx) (mem_layerIdxs.mp hy) _ G (hg ..)
    · rintro ⟨y, hy, h1, rfl⟩; exact ⟨h1, mem_layerIdxs.mp hy⟩
    · rintro ⟨h1, h2⟩; exact ⟨l, mem_layerIdxs.mpr h2, h1, rfl⟩
  · rintro ⟨x, hx, rfl, h2⟩; exact ⟨mem_worldRanks.mp hx, h2⟩
  · rintro ⟨h1, h2⟩; exact ⟨r, mem_worldRanks.mpr h1, rfl, h2⟩

theorem mapCells_err (c : Cfg) (g : Nat → Nat → LState → LState) (s : St) : (mapCells c g s).err = s.err := by
  obtain ⟨rk, e⟩ := mapCells_eq c g s
  rw [e]

/-! ### cell programs -/

theorem run_write_err (s : St) (r l : Nat) (rs : List Fld) (y : LState) :
    (Cell.run s r l (.write rs y)).err = s.err := by
  obtain ⟨a, e⟩ := reads_tch s r (getL s r l) rs
  rw [Cell.run_write, e]; rfl

theorem ok_of_run {s r l p} (he : OK (Cell.run s r l p)) : OK s ∧ ∃ rs y, p = .write rs y := by
  cases p with
  | fail rs w => exact absurd he (fail_err _ _ _)
  | write rs y => exact ⟨(run_write_err ..).symm.trans he, rs, y, rfl⟩

theorem Eff.write {c s} (hs : Shape c s) {r l : Nat} (hr : r < c.world) (hl : l < c.layers.length)
    (rs : List Fld) (y : LState) (G : Nat → Nat → LV → LV) (hy : lv y = G r l (cell s r l)) :
    Eff c s (Cell.run s r l (.write rs y)) (fun r' l' => r' = r ∧ l' = l) G := by
  obtain ⟨a, e⟩ := reads_tch s r (getL s r l) rs
  rw [Cell.run_write, e]
  exact (neutral_tch hs a _).eff (Eff.setL (neutral_tch hs a _).shape hr hl y G hy)

theorem Eff.run {c s r l p} {g : LV → LV} (hs : Shape c s) (hr : r < c.world) (hl : l < c.layers.length)
    (he : OK (Cell.run s r l p)) (hp : p.All fun y => lv y = g (cell s r l)) :
    Eff c s (Cell.run s r l p) (fun r' l' => r' = r ∧ l' = l) (fun _ _ => g) := by
  obtain ⟨_, rs, y, rfl⟩ := ok_of_run he
  exact Eff.write hs hr hl rs y _ hp

theorem neutral_fail {c s} (hs : Shape c s) (r : Nat) (w : String) : Neutral c s (fail s r w) := by
  rcases fail_eq s r w with e | e <;> rw [e]
  · exact .refl hs
  · exact (Neutral.refl hs).congr ⟨rfl, rfl, rfl, rfl, rfl, rfl⟩ rfl

theorem neutral_run {c s r l p} (hs : Shape c s) (hr : r < c.world) (hl : l < c.layers.length)
    (hp : p.All fun y => lv y = cell s r l) : Neutral c s (Cell.run s r l p) := by
  cases p with
  | fail rs w =>
    obtain ⟨a, e⟩ := reads_tch s r (getL s r l) rs
    rw [Cell.run_fail, e]
    exact (neutral_tch hs a _).trans (neutral_fail (neutral_tch hs a _).shape r w)
  | write rs y => exact (Eff.write hs hr hl rs y (fun _ _ v => v) hp).neutral

/-- the loops of `memory_usage()`, `state_dict()` and of the clip scale -/
theorem eachCell_neutral {α : Type} {c s} {ls : List Nat} {as : List α} {p : α → Nat → LState → Cell.Out}
    (hs : Shape c s) (hls : ∀ l ∈ ls, l < c.layers.length) (hp : ∀ a r x, (p a r x).All fun y => lv y = lv x) :
    Neutral c s (eachCell c ls as p s) :=
  forRanks_inv (Neutral c s) c _ _ (.refl hs) fun _ r hr hn => List.foldlRecOn _ _ hn fun _ hn l hl =>
    List.foldlRecOn _ _ hn fun _ hn a _ => hn.trans (neutral_run hn.shape hr (hls l hl) (hp a r _))

theorem foldl_step {c s} (hs : Shape c s) {l : Nat} (hl : l < c.layers.length) (ms : List Nat)
    (hmem : ∀ r, r ∈ ms → r < c.world) (p : Nat → LState → Cell.Out) (g : LV → LV)
    (hidem : ∀ v, g (g v) = g v) (hp : ∀ r x, (p r x).All fun y => lv y = g (lv x))
    (he : OK (ms.foldl (Cell.step p l) s)) :
    Eff c s (ms.foldl (Cell.step p l) s) (fun r' l' => r' ∈ ms ∧ l' = l) (fun _ _ => g) :=
  ranks_eff OK _ l _ ms s (.inl fun _ _ => hidem) (fun _ _ h => (ok_of_run h).1)
    (fun _ r _ hr e h => Eff.run e.shape (hmem r hr) hl h (hp r _)) hs he

theorem foldl_step_ok {ms : List Nat} {p : Nat → LState → Cell.Out} {l : Nat} {s : St}
    (he : OK (ms.foldl (Cell.step p l) s)) : OK s :=
  foldl_mono OK _ (fun _ _ h => (ok_of_run h).1) _ _ he

theorem bcast_eff {c s} (hs : Shape c s) {l : Nat} (hl : l < c.layers.length) (ms : List Nat)
    (hmem : ∀ r, r ∈ ms → r < c.world) (d : Desc) (f : Fld) :
    Eff c s (bcast s l ms d f) (fun r' l' => r' ∈ ms ∧ l' = l)
      (fun _ _ v => v.set f (some (((cell s d.root l).get f).getD .garbage))) := by
  unfold bcast
  rw [issue_eq]
  refine (neutral_tch hs _ _).eff (ranks_eff (fun _ => True) _ l _ ms _ (.inl fun _ _ v => LV.set_set ..)
    (fun _ _ _ => trivial) (fun t r _ hr e _ => Eff.setL e.shape (hmem r hr) hl _ _ ?_) (hs.of_ranks rfl) trivial)
  simp only [cell, lv_set, lv_get]
  rfl

theorem bcast_err (s : St) (l : Nat) (ms : List Nat) (d : Desc) (f : Fld) : (bcast s l ms d f).err = s.err := by
  unfold bcast
  exact foldl_pres St.err (fun t r => setL t r l _) (fun _ _ => rfl) ms _

/-- `OK (F s) → OK s` for a normalised per-rank step -/
macro "step_ok" he:ident : tactic =>
  `(tactic| ((repeat' split at $he:ident) <;> first | exact $he | (simp at $he:ident; done)))

end KV.Refine
