/-
C17 / C06: the greedy placement (`placeAll`): its hypotheses, what one step does to the loads, the balance
invariant (for the workers of a group and for the groups), and what the placement records say.  Core Lean only.
-/
import KfacVerif.Model.Kaisa
import KfacVerif.Lemmas.BasicL

namespace KV.C17
open KV KV.Kaisa

/-- the hypotheses under which the real code does not raise: at least one group,
    no empty group (`min([])` raises), ranks inside the world, groups disjoint -/
structure GroupsOK (groups : List (List Nat)) (world : Nat) : Prop where
  ne : groups ≠ []
  gne : ∀ g ∈ groups, g ≠ []
  lt : ∀ g ∈ groups, ∀ r ∈ g, r < world
  nodup : ∀ g ∈ groups, g.Nodup
  disj : groups.Pairwise (fun a b => ∀ r, r ∈ a → r ∉ b)

/-- dict keys are unique -/
structure WorkOK (work : Work) : Prop where
  layers : (work.map (·.1)).Nodup
  factors : ∀ l ∈ work, (l.2.map (·.1)).Nodup

end KV.C17

namespace KV.Kaisa
open KV

/-- quantities `x i` (`i` in `S`) within `M` of each other stay so when at most `M` is added to a least one:
    the worker loads of a group, the loads of the groups, the loads of a pipeline stage (C12) -/
theorem balanced_step {ι : Type _} {S : ι → Prop} {x x' : ι → Nat} {m : ι} {T M : Nat} (hm : S m)
    (hmin : ∀ b, S b → x m ≤ x b) (hT : T ≤ M) (hxm : x' m = x m + T)
    (hxo : ∀ i, S i → i ≠ m → x' i = x i) (h : ∀ a, S a → ∀ b, S b → x a ≤ x b + M) :
    ∀ a, S a → ∀ b, S b → x' a ≤ x' b + M := by
  intro a ha b hb
  by_cases ea : a = m
  · by_cases eb : b = m
    · rw [ea, eb]; exact Nat.le_add_right ..
    · rw [ea, hxm, hxo b hb eb]; exact Nat.add_le_add (hmin b hb) hT
  · rw [hxo a ha ea]
    by_cases eb : b = m
    · rw [eb, hxm]
      exact Nat.le_trans (h a ha m hm) (Nat.add_le_add_right (Nat.le_add_right ..) _)
    · rw [hxo b hb eb]; exact h a ha b hb

theorem length_addLoad (loads : List Nat) (m c : Nat) :
    (addLoad loads m c).length = loads.length := by
  simp [addLoad]

theorem getD_addLoad (loads : List Nat) (m c j : Nat) (hm : m < loads.length) :
    (addLoad loads m c).getD j 0 = if j = m then loads.getD m 0 + c else loads.getD j 0 := by
  rw [addLoad, getD_set]
  simp only [hm, and_true]

theorem bal_addLoad {S : Nat → Prop} {loads : List Nat} {m c M : Nat} (hm : S m) (hml : m < loads.length)
    (hmin : ∀ b, S b → loads.getD m 0 ≤ loads.getD b 0) (hc : c ≤ M)
    (h : ∀ a, S a → ∀ b, S b → loads.getD a 0 ≤ loads.getD b 0 + M) :
    ∀ a, S a → ∀ b, S b → (addLoad loads m c).getD a 0 ≤ (addLoad loads m c).getD b 0 + M :=
  balanced_step (x := fun i => loads.getD i 0) (x' := fun i => (addLoad loads m c).getD i 0) hm hmin hc
    (by rw [getD_addLoad _ _ _ _ hml, if_pos rfl]) (fun i _ ne => by rw [getD_addLoad _ _ _ _ hml, if_neg ne]) h

theorem sum_addLoad : ∀ (loads : List Nat) (m c : Nat), m < loads.length →
    (addLoad loads m c).sum = loads.sum + c
  | [], _, _, h => absurd h (Nat.not_lt_zero _)
  | x :: xs, 0, c, _ => by
    show ((x + c) :: xs).sum = (x :: xs).sum + c
    rw [List.sum_cons, List.sum_cons, Nat.add_right_comm]
  | x :: xs, m+1, c, h => by
    show (x :: addLoad xs m c).sum = (x :: xs).sum + c
    rw [List.sum_cons, List.sum_cons, sum_addLoad xs m c (Nat.lt_of_succ_lt_succ h), Nat.add_assoc]

theorem loadOf_cons (loads : List Nat) (r : Nat) (g : List Nat) :
    loadOf loads (r :: g) = loads.getD r 0 + loadOf loads g := by
  simp [loadOf]

theorem loadOf_replicate_zero (n : Nat) : ∀ g, loadOf (List.replicate n 0) g = 0
  | [] => rfl
  | r :: g => by rw [loadOf_cons, getD_replicate_self, loadOf_replicate_zero n g]

theorem loadOf_addLoad_notMem (loads : List Nat) (m c : Nat) (hm : m < loads.length) :
    ∀ g, m ∉ g → loadOf (addLoad loads m c) g = loadOf loads g
  | [], _ => rfl
  | r :: g, h => by
    have hr : r ≠ m := fun e => h (e ▸ List.mem_cons_self ..)
    rw [loadOf_cons, loadOf_cons,
      loadOf_addLoad_notMem loads m c hm g (fun h' => h (List.mem_cons_of_mem _ h')),
      getD_addLoad _ _ _ _ hm, if_neg hr]

theorem loadOf_addLoad_mem (loads : List Nat) (m c : Nat) (hm : m < loads.length) :
    ∀ g, g.Nodup → m ∈ g → loadOf (addLoad loads m c) g = loadOf loads g + c
  | [], _, h => by simp at h
  | r :: g, hnd, h => by
    rw [List.nodup_cons] at hnd
    rw [loadOf_cons, loadOf_cons, getD_addLoad _ _ _ _ hm]
    by_cases e : r = m
    · subst e
      rw [loadOf_addLoad_notMem loads r c hm g hnd.1, if_pos rfl, Nat.add_right_comm]
    · have hmg : m ∈ g := by
        rcases List.mem_cons.1 h with h | h
        · exact absurd h.symm e
        · exact h
      rw [loadOf_addLoad_mem loads m c hm g hnd.2 hmg, if_neg e, Nat.add_assoc]

theorem minWorker_spec (loads : List Nat) {g : List Nat} (hg : g ≠ []) :
    minWorker loads g ∈ g ∧ ∀ r ∈ g, loads.getD (minWorker loads g) 0 ≤ loads.getD r 0 :=
  argmin_mem_le (fun i => loads.getD i 0) hg 0

def chosenIdx (groups : List (List Nat)) (loads : List Nat) : Nat :=
  argminIdx (groups.map (loadOf loads))

def chosenGroup (groups : List (List Nat)) (loads : List Nat) : List Nat :=
  groups.getD (chosenIdx groups loads) []

theorem chosenGroup_mem {groups : List (List Nat)} (hne : groups ≠ []) (loads : List Nat) :
    chosenGroup groups loads ∈ groups :=
  (argmin_mem_le (loadOf loads) hne []).1

theorem chosenGroup_min {groups : List (List Nat)} (hne : groups ≠ []) (loads : List Nat) :
    ∀ g ∈ groups, loadOf loads (chosenGroup groups loads) ≤ loadOf loads g :=
  (argmin_mem_le (loadOf loads) hne []).2

theorem placeFactors_cons (g loads : List Nat) (f : String) (c : Nat) (t : List (String × Nat)) :
    placeFactors g loads ((f, c) :: t) =
      ((placeFactors g (addLoad loads (minWorker loads g) c) t).1,
        (f, minWorker loads g, c) :: (placeFactors g (addLoad loads (minWorker loads g) c) t).2) := rfl

theorem placeAll_cons (groups : List (List Nat)) (col : Bool) (loads : List Nat)
    (l : String × List (String × Nat)) (t : List (String × List (String × Nat))) :
    placeAll groups col loads (l :: t) =
      ((placeAll groups col (placeLayer groups col loads l).1 t).1,
        (placeLayer groups col loads l).2 :: (placeAll groups col (placeLayer groups col loads l).1 t).2) := rfl

/-- what a layer hands to the workers of its group: its factors, or their total as one item when co-located -/
def itemsOf (col : Bool) (l : String × List (String × Nat)) : List (String × Nat) :=
  if col then [(l.1, sumCosts l.2)] else sortedFactors l.2

theorem placeLayer_fst (groups : List (List Nat)) (col : Bool) (loads : List Nat)
    (l : String × List (String × Nat)) :
    (placeLayer groups col loads l).1 = (placeFactors (chosenGroup groups loads) loads (itemsOf col l)).1 := by
  cases col <;> rfl

theorem placeLayer_layer (groups : List (List Nat)) (col : Bool) (loads : List Nat)
    (l : String × List (String × Nat)) : (placeLayer groups col loads l).2.layer = l.1 := by
  cases col <;> rfl

theorem placeLayer_snd (groups : List (List Nat)) (col : Bool) (loads : List Nat)
    (l : String × List (String × Nat)) :
    (placeLayer groups col loads l).2 =
      { layer := l.1, groupIdx := chosenIdx groups loads, loadsBefore := loads,
        items := if col then l.2.map (fun fc => (fc.1, minWorker loads (chosenGroup groups loads), fc.2))
                 else (placeFactors (chosenGroup groups loads) loads (sortedFactors l.2)).2 } := by
  cases col <;> rfl

theorem sumCosts_cons (f : String) (c : Nat) (t : List (String × Nat)) :
    sumCosts ((f, c) :: t) = c + sumCosts t := by simp [sumCosts]

theorem sumCosts_sortedFactors (fs : List (String × Nat)) : sumCosts (sortedFactors fs) = sumCosts fs := by
  unfold sumCosts sortedFactors
  exact ((sortBy_perm factorLe fs).map _).sum_nat

theorem sumCosts_itemsOf (col : Bool) (l : String × List (String × Nat)) :
    sumCosts (itemsOf col l) = sumCosts l.2 := by
  cases col
  · exact sumCosts_sortedFactors l.2
  · exact Nat.add_zero _

/-! ### one step: load is added inside one group only -/

/-- what placing items of total cost `T` on workers of `g` does to the loads: `T` arrives, all of it inside `g` -/
structure StepOK (g : List Nat) (T : Nat) (loads loads' : List Nat) : Prop where
  len : loads'.length = loads.length
  sum : loads'.sum = loads.sum + T
  own : loadOf loads' g = loadOf loads g + T
  other : ∀ g', (∀ x ∈ g, x ∉ g') → loadOf loads' g' = loadOf loads g'

theorem StepOK.refl (g loads : List Nat) : StepOK g 0 loads loads :=
  ⟨rfl, rfl, rfl, fun _ _ => rfl⟩

theorem StepOK.trans {g : List Nat} {a b : Nat} {l0 l1 l2 : List Nat}
    (h1 : StepOK g a l0 l1) (h2 : StepOK g b l1 l2) : StepOK g (a + b) l0 l2 :=
  ⟨h2.len.trans h1.len, by rw [h2.sum, h1.sum]; omega, by rw [h2.own, h1.own]; omega,
   fun g' hd => (h2.other g' hd).trans (h1.other g' hd)⟩

theorem stepOK_addLoad {g loads : List Nat} (hg : g ≠ []) (hnd : g.Nodup)
    (hlt : ∀ r ∈ g, r < loads.length) (c : Nat) :
    StepOK g c loads (addLoad loads (minWorker loads g) c) := by
  have hm := (minWorker_spec loads hg).1
  have hml := hlt _ hm
  exact ⟨length_addLoad _ _ _, sum_addLoad _ _ _ hml, loadOf_addLoad_mem _ _ _ hml g hnd hm,
    fun g' hd => loadOf_addLoad_notMem _ _ _ hml g' (hd _ hm)⟩

theorem placeFactors_stepOK {g : List Nat} (hg : g ≠ []) (hnd : g.Nodup) :
    ∀ (fs : List (String × Nat)) (loads : List Nat), (∀ r ∈ g, r < loads.length) →
      StepOK g (sumCosts fs) loads (placeFactors g loads fs).1
  | [], loads, _ => StepOK.refl g loads
  | (f, c) :: t, loads, hlt => by
    rw [placeFactors_cons, sumCosts_cons]
    have h1 := stepOK_addLoad hg hnd hlt c
    exact h1.trans (placeFactors_stepOK hg hnd t _ (by rw [h1.len]; exact hlt))

/-! ### disjoint groups and the two balance invariants -/

/-- any two groups are equal or disjoint: the symmetric form of `GroupsOK.disj`, which speaks of ordered pairs -/
def GDisj (groups : List (List Nat)) : Prop :=
  ∀ g ∈ groups, ∀ g' ∈ groups, g = g' ∨ ∀ r ∈ g, r ∉ g'

theorem gdisj_of_pairwise (groups : List (List Nat))
    (h : groups.Pairwise (fun a b => ∀ r, r ∈ a → r ∉ b)) : GDisj groups :=
  fun _ hg _ hg' => List.Pairwise.forall_of_forall_of_flip (R := fun a b => a = b ∨ ∀ r ∈ a, r ∉ b)
    (fun _ _ => Or.inl rfl) (h.imp Or.inr) (h.imp fun h => Or.inr fun r hb ha => h r ha hb) hg hg'

/-- worker balance: two workers of one group are never more than `M` apart -/
def WInv (groups : List (List Nat)) (loads : List Nat) (M : Nat) : Prop :=
  ∀ g ∈ groups, ∀ a ∈ g, ∀ b ∈ g, loads.getD a 0 ≤ loads.getD b 0 + M

/-- group balance: two groups are never more than `M` apart in total load -/
def GInv (groups : List (List Nat)) (loads : List Nat) (M : Nat) : Prop :=
  ∀ g ∈ groups, ∀ g' ∈ groups, loadOf loads g ≤ loadOf loads g' + M

theorem winv_addLoad {groups : List (List Nat)} {loads : List Nat} {M c : Nat} {g : List Nat}
    (hd : GDisj groups) (hg : g ∈ groups) (hgne : g ≠ []) (hlt : ∀ r ∈ g, r < loads.length)
    (hc : c ≤ M) (h : WInv groups loads M) :
    WInv groups (addLoad loads (minWorker loads g) c) M := by
  obtain ⟨hm, hmin⟩ := minWorker_spec loads hgne
  have hml := hlt _ hm
  intro g' hg'
  rcases hd g hg g' hg' with rfl | hdis
  · exact bal_addLoad hm hml hmin hc (h g hg)
  · intro a ha b hb
    have hm' := hdis _ hm
    have ha' : a ≠ minWorker loads g := fun e => hm' (e ▸ ha)
    have hb' : b ≠ minWorker loads g := fun e => hm' (e ▸ hb)
    rw [getD_addLoad _ _ _ _ hml, getD_addLoad _ _ _ _ hml, if_neg ha', if_neg hb']
    exact h g' hg' a ha b hb

theorem winv_placeFactors {groups : List (List Nat)} {M : Nat} {g : List Nat}
    (hd : GDisj groups) (hg : g ∈ groups) (hgne : g ≠ []) :
    ∀ (fs : List (String × Nat)) (loads : List Nat), (∀ r ∈ g, r < loads.length) →
      (∀ f ∈ fs, f.2 ≤ M) → WInv groups loads M → WInv groups (placeFactors g loads fs).1 M
  | [], _, _, _, h => h
  | (f, c) :: t, loads, hlt, hM, h => by
    rw [placeFactors_cons]
    refine winv_placeFactors hd hg hgne t _ (by rw [length_addLoad]; exact hlt)
      (fun f hf => hM f (List.mem_cons_of_mem _ hf)) ?_
    exact winv_addLoad hd hg hgne hlt (hM (f, c) (List.mem_cons_self ..)) h

theorem ginv_step {groups : List (List Nat)} {loads loads' : List Nat} {M T : Nat} {g : List Nat}
    (hd : GDisj groups) (hg : g ∈ groups) (hmin : ∀ g' ∈ groups, loadOf loads g ≤ loadOf loads g')
    (hs : StepOK g T loads loads') (hT : T ≤ M) (h : GInv groups loads M) :
    GInv groups loads' M :=
  balanced_step (x := loadOf loads) (x' := loadOf loads') hg hmin hT hs.own
    (fun g' hg' ne => hs.other g' ((hd g hg g' hg').resolve_left (Ne.symm ne))) h

/-- `M` bounds every item the layer hands to its group (`itemsOf`), stated on the layer itself -/
def ItemLe (col : Bool) (M : Nat) (l : String × List (String × Nat)) : Prop :=
  if col then sumCosts l.2 ≤ M else ∀ f ∈ l.2, f.2 ≤ M

theorem ItemLe.items {col : Bool} {M : Nat} {l : String × List (String × Nat)} (h : ItemLe col M l) :
    ∀ f ∈ itemsOf col l, f.2 ≤ M := by
  cases col
  · exact fun f hf => h f ((sortBy_perm factorLe l.2).mem_iff.1 hf)
  · exact List.forall_mem_singleton.2 h

theorem placeLayer_stepOK {groups : List (List Nat)} {n : Nat} (ok : C17.GroupsOK groups n) (col : Bool)
    (loads : List Nat) (hlen : loads.length = n) (l : String × List (String × Nat)) :
    StepOK (chosenGroup groups loads) (sumCosts l.2) loads (placeLayer groups col loads l).1 := by
  have hg := chosenGroup_mem ok.ne loads
  rw [placeLayer_fst, ← sumCosts_itemsOf col l]
  exact placeFactors_stepOK (ok.gne _ hg) (ok.nodup _ hg) _ loads (hlen ▸ ok.lt _ hg)

theorem winv_placeLayer {groups : List (List Nat)} {n : Nat} (ok : C17.GroupsOK groups n) (col : Bool)
    (loads : List Nat) (hlen : loads.length = n) (l : String × List (String × Nat)) {M : Nat}
    (hM : ItemLe col M l) (h : WInv groups loads M) :
    WInv groups (placeLayer groups col loads l).1 M := by
  have hg := chosenGroup_mem ok.ne loads
  rw [placeLayer_fst]
  exact winv_placeFactors (gdisj_of_pairwise groups ok.disj) hg (ok.gne _ hg) _ loads (hlen ▸ ok.lt _ hg) hM.items h

theorem placeAll_spec {groups : List (List Nat)} {n : Nat} (ok : C17.GroupsOK groups n) (col : Bool) :
    ∀ (layers : List (String × List (String × Nat))) (loads : List Nat), loads.length = n →
      (placeAll groups col loads layers).1.length = n ∧
      (placeAll groups col loads layers).1.sum
        = loads.sum + (layers.map (fun l => sumCosts l.2)).sum ∧
      (∀ M, (∀ l ∈ layers, ItemLe col M l) → WInv groups loads M →
        WInv groups (placeAll groups col loads layers).1 M) ∧
      (∀ M, (∀ l ∈ layers, sumCosts l.2 ≤ M) → GInv groups loads M →
        GInv groups (placeAll groups col loads layers).1 M)
  | [], loads, hlen => ⟨hlen, by simp [placeAll], fun _ _ h => h, fun _ _ h => h⟩
  | l :: t, loads, hlen => by
    have hs := placeLayer_stepOK ok col loads hlen l
    obtain ⟨i1, i2, i3, i4⟩ := placeAll_spec ok col t (placeLayer groups col loads l).1
      (hs.len.trans hlen)
    rw [placeAll_cons]
    refine ⟨i1, by rw [i2, hs.sum, List.map_cons, List.sum_cons, Nat.add_assoc], fun M hM h => ?_, fun M hM h => ?_⟩
    · obtain ⟨h0, ht⟩ := List.forall_mem_cons.1 hM
      exact i3 M ht (winv_placeLayer ok col loads hlen l h0 h)
    · obtain ⟨h0, ht⟩ := List.forall_mem_cons.1 hM
      exact i4 M ht (ginv_step (gdisj_of_pairwise groups ok.disj) (chosenGroup_mem ok.ne loads)
        (chosenGroup_min ok.ne loads) hs h0 h)

theorem winv_zero (groups : List (List Nat)) (n M : Nat) : WInv groups (List.replicate n 0) M := by
  intro g _ a _ b _
  rw [getD_replicate_self, getD_replicate_self]; omega

theorem ginv_zero (groups : List (List Nat)) (n M : Nat) : GInv groups (List.replicate n 0) M := by
  intro g _ g' _
  rw [loadOf_replicate_zero, loadOf_replicate_zero]; omega

/-! ### the placement records -/

theorem sortedLayers_perm (work : Work) : (sortedLayers work).Perm work :=
  sortBy_perm _ work

theorem placeAll_layers (groups : List (List Nat)) (col : Bool) :
    ∀ (layers : List (String × List (String × Nat))) (loads : List Nat),
      (placeAll groups col loads layers).2.map (·.layer) = layers.map (·.1)
  | [], _ => rfl
  | l :: t, loads => by
    rw [placeAll_cons, List.map_cons, List.map_cons, placeAll_layers groups col t, placeLayer_layer]

theorem mem_placeAll (groups : List (List Nat)) (col : Bool) :
    ∀ (layers : List (String × List (String × Nat))) (loads : List Nat) (p : Placement),
      p ∈ (placeAll groups col loads layers).2 →
        ∃ loads' l, l ∈ layers ∧ p = (placeLayer groups col loads' l).2
  | [], _, p, h => by simp [placeAll] at h
  | l :: t, loads, p, h => by
    rw [placeAll_cons] at h
    rcases List.mem_cons.1 h with e | h
    · exact ⟨loads, l, List.mem_cons_self .., e⟩
    · obtain ⟨loads', l', hl', e⟩ := mem_placeAll groups col t _ p h
      exact ⟨loads', l', List.mem_cons_of_mem _ hl', e⟩

theorem find_placeAll (groups : List (List Nat)) (col : Bool) :
    ∀ (layers : List (String × List (String × Nat))) (loads : List Nat)
      (l : String × List (String × Nat)), (layers.map (·.1)).Nodup → l ∈ layers →
        ∃ loads', (placeAll groups col loads layers).2.find? (fun p => p.layer == l.1)
          = some (placeLayer groups col loads' l).2
  | l0 :: t, loads, l, hnd, hl => by
    rw [List.map_cons, List.nodup_cons] at hnd
    rw [placeAll_cons, List.find?_cons, placeLayer_layer]
    rcases List.mem_cons.1 hl with rfl | hl
    · exact ⟨loads, by rw [beq_self_eq_true]⟩
    · -- the name of `l0` is not that of a later layer
      rw [beq_false_of_ne fun e : l0.1 = l.1 => hnd.1 (e ▸ List.mem_map_of_mem hl)]
      exact find_placeAll groups col t _ l hnd.2 hl

theorem placements_lookup {work : Work} (groups : List (List Nat)) (world : Nat) (col : Bool)
    {l : String × List (String × Nat)} (hnd : (work.map (·.1)).Nodup) (hl : l ∈ work) :
    ∃ loads', ∀ f, lookupPlacement (placements work groups world col) l.1 f
      = ((placeLayer groups col loads' l).2.items.find? (fun it => it.1 == f)).map (·.2.1) := by
  obtain ⟨loads', h⟩ := find_placeAll groups col (sortedLayers work) (List.replicate world 0) l
    (((sortedLayers_perm work).map (·.1)).nodup_iff.2 hnd) ((sortedLayers_perm work).mem_iff.2 hl)
  exact ⟨loads', fun f => by rw [lookupPlacement, placements, h]⟩

theorem placeFactors_items_names (g : List Nat) :
    ∀ (fs : List (String × Nat)) (loads : List Nat),
      (placeFactors g loads fs).2.map (·.1) = fs.map (·.1)
  | [], _ => rfl
  | (f, c) :: t, loads => by
    rw [placeFactors_cons, List.map_cons, List.map_cons, placeFactors_items_names g t]

theorem placeFactors_items_mem {g : List Nat} (hg : g ≠ []) :
    ∀ (fs : List (String × Nat)) (loads : List Nat),
      ∀ it ∈ (placeFactors g loads fs).2, it.2.1 ∈ g
  | [], _, it, h => by simp [placeFactors] at h
  | (f, c) :: t, loads, it, h => by
    rw [placeFactors_cons] at h
    rcases List.mem_cons.1 h with rfl | h
    · exact (minWorker_spec loads hg).1
    · exact placeFactors_items_mem hg t _ it h

theorem placeLayer_items_names_mem (groups : List (List Nat)) (col : Bool) (loads : List Nat)
    (l : String × List (String × Nat)) {f : String × Nat} (hf : f ∈ l.2) :
    f.1 ∈ (placeLayer groups col loads l).2.items.map (·.1) := by
  rw [placeLayer_snd]
  cases col with
  | true =>
    simp only [if_true, List.map_map]
    exact List.mem_map.2 ⟨f, hf, rfl⟩
  | false =>
    simp only [Bool.false_eq_true, if_false, placeFactors_items_names]
    exact List.mem_map_of_mem ((sortBy_perm factorLe l.2).mem_iff.2 hf)

theorem placeLayer_items_colocated (groups : List (List Nat)) (loads : List Nat)
    (l : String × List (String × Nat)) :
    ∀ it ∈ (placeLayer groups true loads l).2.items,
      it.2.1 = minWorker loads (chosenGroup groups loads) := by
  rw [placeLayer_snd]
  intro it hit
  obtain ⟨fc, _, rfl⟩ := List.mem_map.1 hit
  rfl

theorem placeLayer_items_mem {groups : List (List Nat)} (hne : groups ≠ [])
    (hgne : ∀ g ∈ groups, g ≠ []) (col : Bool) (loads : List Nat)
    (l : String × List (String × Nat)) :
    ∀ it ∈ (placeLayer groups col loads l).2.items, it.2.1 ∈ chosenGroup groups loads := by
  have hg := hgne _ (chosenGroup_mem hne loads)
  intro it hit
  cases col with
  | true =>
    rw [placeLayer_items_colocated groups loads l it hit]
    exact (minWorker_spec loads hg).1
  | false => exact placeFactors_items_mem hg _ _ it hit

section
variable {work : Work} {l : String × List (String × Nat)} (groups : List (List Nat)) (world : Nat)

theorem placements_assigned (col : Bool) (hnd : (work.map (·.1)).Nodup) (hl : l ∈ work) {f : String × Nat}
    (hf : f ∈ l.2) : ∃ r, lookupPlacement (placements work groups world col) l.1 f.1 = some r := by
  obtain ⟨loads', h⟩ := placements_lookup groups world col hnd hl
  rw [h]
  obtain ⟨it, hit, hn⟩ := List.mem_map.1 (placeLayer_items_names_mem groups col loads' l hf)
  have : ((placeLayer groups col loads' l).2.items.find? (fun it => it.1 == f.1)).isSome := by
    rw [List.find?_isSome]
    exact ⟨it, hit, by simpa using hn⟩
  obtain ⟨x, hx⟩ := Option.isSome_iff_exists.1 this
  exact ⟨x.2.1, by rw [hx]; rfl⟩

theorem placements_confined {groups : List (List Nat)} (hne : groups ≠ []) (hgne : ∀ g ∈ groups, g ≠ [])
    (col : Bool) (hnd : (work.map (·.1)).Nodup) (hl : l ∈ work) :
    ∃ g ∈ groups, ∀ (f : String) (r : Nat),
      lookupPlacement (placements work groups world col) l.1 f = some r → r ∈ g := by
  obtain ⟨loads', h⟩ := placements_lookup groups world col hnd hl
  refine ⟨chosenGroup groups loads', chosenGroup_mem hne loads', fun f r hr => ?_⟩
  rw [h, Option.map_eq_some_iff] at hr
  obtain ⟨it, hit, rfl⟩ := hr
  exact placeLayer_items_mem hne hgne col loads' l it (List.mem_of_find?_eq_some hit)

theorem placements_colocated (hnd : (work.map (·.1)).Nodup) (hl : l ∈ work) :
    ∃ w, ∀ (f : String) (r : Nat),
      lookupPlacement (placements work groups world true) l.1 f = some r → r = w := by
  obtain ⟨loads', h⟩ := placements_lookup groups world true hnd hl
  refine ⟨minWorker loads' (chosenGroup groups loads'), fun f r hr => ?_⟩
  rw [h, Option.map_eq_some_iff] at hr
  obtain ⟨it, hit, rfl⟩ := hr
  exact placeLayer_items_colocated groups loads' l it (List.mem_of_find?_eq_some hit)

end

end KV.Kaisa
