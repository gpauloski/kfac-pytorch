/-
Refinement Precond ⟶ Spec: the simulation relation `Rel` and its preservation by the factor
bookkeeping (`fwdBwd`), `reset_batch`, `memory_usage` and `state_dict`.  Core Lean only.
-/
import KfacVerif.Lemmas.RefineFactors

namespace KV.Refine
open KV KV.Precond
open KV.Spec (sBatch sCount sFac sSetBatch acc)

def bAt (o : Option (List V)) (r : Nat) : Option V := o.map (fun b => b.getD r .zero)

/-- the second-order data that `precondGrad` reads agree -/
def SO (c : Cfg) (v : LV) (y : Spec.SLayer) : Prop :=
  match c.method with
  | .eigen => v.qa = y.qa ∧ v.qg = y.qg ∧ (if c.prediv then v.dgda = y.dgda else v.da = y.da ∧ v.dg = y.dg)
  | .inverse => v.aInv = y.aInv ∧ v.gInv = y.gInv

structure CellRel (c : Cfg) (r l : Nat) (v : LV) (y : Spec.SLayer) : Prop where
  aBatch : v.aBatch = bAt y.aBatch r
  aCount : v.aCount = y.aCount
  gBatch : v.gBatch = bAt y.gBatch r
  gCount : v.gCount = y.gCount
  aFactor : v.aFactor = y.aFactor
  gFactor : v.gFactor = y.gFactor
  so : r ∈ c.asg.workers l → SO c v y

structure TLay (c : Cfg) (y : Spec.SLayer) : Prop where
  aLen : ∀ b, y.aBatch = some b → b.length = c.world
  gLen : ∀ b, y.gBatch = some b → b.length = c.world

/-- the two machines agree on everything outside the tables of cells and layers -/
structure Glob (c : Cfg) (s : St) (t : Spec.SSt) : Prop where
  steps : s.steps = t.steps
  mini : s.mini = t.mini
  pass : s.pass = t.pass
  hyper : s.hyper = t.hyper
  defs : s.defs = t.defs
  out : ∀ r, r < c.world → s.outGrads.getD r [] = t.out

theorem Glob.same {c s s' t} (h : Glob c s t) (sm : Same s s') : Glob c s' t :=
  ⟨sm.steps.trans h.steps, sm.mini.trans h.mini, sm.pass.trans h.pass, sm.hyper.trans h.hyper,
   sm.defs.trans h.defs, fun r hr => sm.outGrads ▸ h.out r hr⟩

theorem Glob.setS {c s t} (h : Glob c s t) (l : Nat) (y : Spec.SLayer) : Glob c s (Spec.setS t l y) :=
  ⟨h.steps, h.mini, h.pass, h.hyper, h.defs, h.out⟩

structure Rel (c : Cfg) (s : St) (t : Spec.SSt) : Prop extends Glob c s t where
  shape : Shape c s
  tlen : t.layers.length = c.layers.length
  lay : ∀ l, l < c.layers.length →
    TLay c (Spec.getS t l) ∧ ∀ r, r < c.world → CellRel c r l (cell s r l) (Spec.getS t l)

theorem eq_of_noGrad {v v' : LV} (e : noGrad v' = noGrad v) : v' = { v with grad := v'.grad } := by
  cases v; cases v'
  simp only [noGrad, LV.mk.injEq, and_true] at e ⊢
  exact e

theorem CellRel.of_noGrad {c r l v v' y} (h : CellRel c r l v y) (e : noGrad v' = noGrad v) :
    CellRel c r l v' y := by
  rw [eq_of_noGrad e]
  exact ⟨h.aBatch, h.aCount, h.gBatch, h.gCount, h.aFactor, h.gFactor, h.so⟩

theorem Rel.noGrad {c s s' t} (h : Rel c s t) (hsm : Same s s') (hsh : Shape c s')
    (hng : ∀ r l, noGrad (cell s' r l) = noGrad (cell s r l)) : Rel c s' t :=
  ⟨h.toGlob.same hsm, hsh, h.tlen,
   fun l hl => ⟨(h.lay l hl).1, fun r hr => ((h.lay l hl).2 r hr).of_noGrad (hng r l)⟩⟩

theorem Rel.neutral {c s s' t} (h : Rel c s t) (n : Neutral c s s') : Rel c s' t :=
  h.noGrad n.same n.shape fun r l => by rw [n.cell]

theorem Rel.setLayer {c s s' t} (h : Rel c s t) {l : Nat} (hl : l < c.layers.length) (sm : Same s s')
    (hsh : Shape c s') (hs : ∀ r l', l' ≠ l → cell s' r l' = cell s r l') {y : Spec.SLayer}
    (hy : TLay c y ∧ ∀ r, r < c.world → CellRel c r l (cell s' r l) y) : Rel c s' (Spec.setS t l y) := by
  refine ⟨(h.toGlob.same sm).setS l y, hsh, (Spec.setS_len ..).trans h.tlen, fun l' hl' => ?_⟩
  by_cases e : l' = l
  · subst e
    rw [Spec.getS_setS_self _ _ _ (h.tlen ▸ hl')]
    exact hy
  · rw [Spec.getS_setS_ne _ _ e]
    exact ⟨(h.lay l' hl').1, fun r hr => hs r l' e ▸ (h.lay l' hl').2 r hr⟩

theorem Rel.setMini {c s t} (h : Rel c s t) (m : List Nat) :
    Rel c { s with mini := m } { t with mini := m } :=
  { h with mini := rfl, shape := h.shape.of_ranks rfl }

theorem Rel.setDefs {c s t} (h : Rel c s t) (d : List V) :
    Rel c { s with defs := d } { t with defs := d } :=
  { h with defs := rfl, shape := h.shape.of_ranks rfl }

theorem Rel.incPass {c s t} (h : Rel c s t) :
    Rel c { s with pass := s.pass + 1 } { t with pass := t.pass + 1 } :=
  { h with pass := congrArg (· + 1) h.pass, shape := h.shape.of_ranks rfl }

theorem Rel.ite {c s t s' t'} {b : Bool} (h : Rel c s t) (he : OK (if b then s' else s))
    (h' : OK s' → Rel c s' t') : Rel c (if b then s' else s) (if b then t' else t) := by
  cases b
  · exact h
  · exact h' he

theorem getD_zipWith_add (a b : List V) (r : Nat) (ha : r < a.length) (hb : r < b.length) :
    (List.zipWith V.add a b).getD r .zero = V.add (a.getD r .zero) (b.getD r .zero) := by
  simp [List.getD, List.getElem?_zipWith, List.getElem?_eq_getElem ha, List.getElem?_eq_getElem hb]

theorem CellRel.batch {c r l v y} (h : CellRel c r l v y) (isA : Bool) :
    batchOf isA v = bAt (sBatch isA y) r := by
  cases isA
  · exact h.gBatch
  · exact h.aBatch

theorem CellRel.count {c r l v y} (h : CellRel c r l v y) (isA : Bool) : countOf isA v = sCount isA y := by
  cases isA
  · exact h.gCount
  · exact h.aCount

theorem CellRel.fac {c r l v y} (h : CellRel c r l v y) (isA : Bool) : facOf isA v = sFac isA y := by
  cases isA
  · exact h.gFactor
  · exact h.aFactor

theorem CellRel.ofSetBatch {c r l v y} (h : CellRel c r l v y) (isA : Bool) {b B n N} (hb : b = bAt B r)
    (hn : n = N) : CellRel c r l (setBatch isA v b n) (sSetBatch isA y B N) := by
  cases isA
  · exact ⟨h.aBatch, h.aCount, hb, hn, h.aFactor, h.gFactor, h.so⟩
  · exact ⟨hb, hn, h.gBatch, h.gCount, h.aFactor, h.gFactor, h.so⟩

theorem TLay.batchLen {c y} (h : TLay c y) (isA : Bool) (b : List V) (hb : sBatch isA y = some b) :
    b.length = c.world := by
  cases isA
  · exact h.gLen b hb
  · exact h.aLen b hb

theorem TLay.setBatch {c y} (h : TLay c y) (isA : Bool) {B : List V} (N : Nat) (hB : B.length = c.world) :
    TLay c (sSetBatch isA y (some B) N) := by
  cases isA
  · exact ⟨h.aLen, fun b hb => by cases hb; exact hB⟩
  · exact ⟨fun b hb => by cases hb; exact hB, h.gLen⟩

theorem saveAll_rel {c s t} (h : Rel c s t) {l : Nat} (hl : l < c.layers.length) (isA : Bool) :
    Rel c (forRanks c s fun s r => saveBatch s r l isA) (Spec.save (Spec.ofCfg c) t l isA) := by
  have e := saveAll_eff h.shape hl isA
  obtain ⟨hT, hC⟩ := h.lay l hl
  rw [Spec.save_eq, Spec.svL]
  refine h.setLayer hl e.same e.shape (fun r _ => e.other r) ?_
  have hlen : ((Spec.ranks (Spec.ofCfg c)).map fun r => V.cov l isA r t.pass).length = c.world := by
    simp [Spec.ranks, Spec.ofCfg]
  -- the accumulated batches have one entry per rank, and rank `r` holds the `r`-th
  cases hb : sBatch isA (Spec.getS t l) with
  | none =>
    refine ⟨hT.setBatch isA _ hlen, fun r hr => ?_⟩
    rw [e.on hr, gSave, (hC r hr).batch isA, hb]
    refine (hC r hr).ofSetBatch isA ?_ rfl
    simp only [bAt, acc, Option.map_none, Option.map_some]
    rw [show Spec.ranks (Spec.ofCfg c) = List.range c.world from rfl, getD_map_range _ _ _ _ hr, h.pass]
  | some b =>
    have hbl := hT.batchLen isA b hb
    refine ⟨hT.setBatch isA _ (by simp [acc, hbl, hlen]), fun r hr => ?_⟩
    rw [e.on hr, gSave, (hC r hr).batch isA, (hC r hr).count isA, hb]
    refine (hC r hr).ofSetBatch isA ?_ rfl
    simp only [bAt, acc, Option.map_some]
    rw [getD_zipWith_add _ _ _ (by rw [hbl]; exact hr) (by rw [hlen]; exact hr),
      show Spec.ranks (Spec.ofCfg c) = List.range c.world from rfl, getD_map_range _ _ _ _ hr, h.pass]

def clrBatch (isA : Bool) (v : LV) : LV := if isA then { v with aBatch := none } else { v with gBatch := none }

/-- the per-rank factor after `update_*_factor` -/
def newFac (isA : Bool) (α : Rat) (l : Nat) (v : LV) : Option V :=
  Spec.upd1 l isA α (batchOf isA v) (countOf isA v) (facOf isA v)

theorem gUpd_eq (isA : Bool) (α : Rat) (r l : Nat) (v : LV) :
    gUpd isA α r l v = setFac isA (clrBatch isA v) (newFac isA α l v) := by
  cases v with
  | mk aB aC gB gC aF gF qa da qg dg dgda aInv gInv grad =>
    cases isA
    · cases gB <;> rfl
    · cases aB <;> rfl

theorem facOf_setFac (isA v o) : facOf isA (setFac isA v o) = o := by
  cases isA <;> rfl

theorem setFac_setFac (isA v o o') : setFac isA (setFac isA v o) o' = setFac isA v o' := by
  cases isA <;> rfl

theorem CellRel.urPut {c r l v y} (h : CellRel c r l v y) (isA : Bool) (o : Option V) :
    CellRel c r l (setFac isA (clrBatch isA v) o) (Spec.urPut y isA o) := by
  cases isA
  · exact ⟨h.aBatch, h.aCount, rfl, h.gCount, h.aFactor, rfl, h.so⟩
  · exact ⟨rfl, h.aCount, h.gBatch, h.gCount, rfl, h.gFactor, h.so⟩

theorem TLay.urPut {c y} (h : TLay c y) (isA : Bool) (o : Option V) : TLay c (Spec.urPut y isA o) := by
  cases isA
  · exact ⟨h.aLen, fun b hb => by simp [Spec.urPut] at hb⟩
  · exact ⟨fun b hb => by simp [Spec.urPut] at hb, h.gLen⟩

theorem newFac_urVals {c r l v y} (h : CellRel c r l v y) (hT : TLay c y) (hr : r < c.world)
    (isA : Bool) (α : Rat) : newFac isA α l v = bAt (Spec.urVals (Spec.ofCfg c) y l isA α) r := by
  rw [newFac, h.batch isA, h.fac isA, h.count isA]
  exact (Spec.urVals_getD (Spec.ofCfg c) y l isA α hr (hT.batchLen isA)).symm

theorem updRed_rel {c s t} (hw0 : 0 < c.world) (h : Rel c s t) {l : Nat} (hl : l < c.layers.length)
    (isA : Bool) (α : Rat)
    (he : OK (reduceFactor c (forRanks c s fun s r => updateFactor s r l isA α) l isA)) :
    Rel c (reduceFactor c (forRanks c s fun s r => updateFactor s r l isA α) l isA)
      (Spec.updateReduce (Spec.ofCfg c) t l isA α) := by
  have e1 := updateAll_eff h.shape hl isA α
  obtain ⟨hhave, re⟩ := reduceFactor_eff e1.shape hl isA he
  generalize forRanks c s (fun s r => updateFactor s r l isA α) = s1 at e1 re hhave ⊢
  generalize reduceFactor c s1 l isA = s2 at re ⊢
  obtain ⟨hT, hC⟩ := h.lay l hl
  have hc1 : ∀ r, r < c.world → cell s1 r l =
      setFac isA (clrBatch isA (cell s r l)) (bAt (Spec.urVals (Spec.ofCfg c) (Spec.getS t l) l isA α) r) := by
    intro r hr
    rw [e1.on hr, gUpd_eq, newFac_urVals (hC r hr) hT hr isA α]
  rw [Spec.updateReduce_eq]
  cases hp : Spec.urVals (Spec.ofCfg c) (Spec.getS t l) l isA α with
  | none =>
    -- without per-rank values rank 0 would hold no factor, and `reduceFactor` would have raised
    have := hhave 0 hw0
    rw [hc1 0 hw0, facOf_setFac, hp] at this
    cases this
  | some vals =>
    have hv : ((worldRanks c).map fun r => (facOf isA (cell s1 r l)).getD .zero) = vals := by
      rw [← range_map_getD vals .zero, Spec.urVals_length (hT.batchLen isA) hp]
      exact List.map_congr_left fun r hr => by rw [hc1 r (mem_worldRanks.mp hr), facOf_setFac, hp]; rfl
    rw [hv, e1.same.defs, h.defs] at re
    refine (h.setDefs _).setLayer hl ((e1.same.withDefs _).trans re.same) re.shape
      (fun r _ hne => (re.other r hne).trans (e1.other r hne))
      ⟨hT.urPut isA _, fun r hr => ?_⟩
    have hcell : cell s2 r l = setFac isA (cell s1 r l) (Spec.redOut c.world t.defs vals).2 := re.on hr
    rw [hcell, hc1 r hr, setFac_setFac]
    exact (hC r hr).urPut isA _

theorem updRed_ok {c s l isA α} (he : OK (reduceFactor c (forRanks c s fun s r => updateFactor s r l isA α) l isA)) :
    OK s := by
  have := reduceFactor_ok he
  rwa [OK, updateAll_err] at this

theorem fwdStep_ok {c α s l} (he : OK (fwdStep c α s l)) : OK s :=
  (saveAll_err c s l true).symm.trans (ite_ok updRed_ok he :)

theorem bwdStep_ok {c α s l} (he : OK (bwdStep c α s l)) : OK s :=
  (saveAll_err c s l false).symm.trans (ite_ok updRed_ok he :)

theorem fwdStep_rel {c s t} (hw0 : 0 < c.world) (α : Rat) {l : Nat} (hl : l < c.layers.length)
    (h : Rel c s t) (he : OK (fwdStep c α s l)) :
    Rel c (fwdStep c α s l) (Spec.fwdBody (Spec.ofCfg c) α t l) := by
  have h1 := saveAll_rel h hl true
  unfold fwdStep Spec.fwdBody
  simp only []
  rw [← h1.mini]
  exact (h1.setMini _).ite he (updRed_rel hw0 (h1.setMini _) hl true α)

theorem bwdStep_rel {c s t} (hw0 : 0 < c.world) (α : Rat) {l : Nat} (hl : l < c.layers.length)
    (h : Rel c s t) (he : OK (bwdStep c α s l)) :
    Rel c (bwdStep c α s l) (Spec.bwdBody (Spec.ofCfg c) α t l) := by
  have h1 := saveAll_rel h hl false
  unfold bwdStep Spec.bwdBody
  simp only []
  rw [← h1.mini]
  exact h1.ite he (updRed_rel hw0 h1 hl false α)

theorem fwdBwd_rel {c s t} (hw0 : 0 < c.world) (h : Rel c s t) (train : Bool)
    (he : OK (Precond.fwdBwd c s train)) :
    Rel c (Precond.fwdBwd c s train) (Spec.fwdBwd (Spec.ofCfg c) t train) := by
  rw [fwdBwd_eq] at he ⊢
  rw [Spec.fwdBwd_eq, show t.hyper.decay.val t.steps = s.hyper.decay.val s.steps by rw [h.steps, h.hyper],
    show (t.steps % t.hyper.fus.val t.steps != 0) = (s.steps % s.hyper.fus.val s.steps != 0) by rw [h.steps, h.hyper]]
  cases train
  · exact h
  simp only [Bool.not_true, Bool.false_eq_true, if_false] at he ⊢
  split
  · exact h.incPass
  rename_i hf
  rw [if_neg hf] at he
  refine Rel.incPass ?_
  have he' : OK ((revLayers c).foldl (bwdStep c (s.hyper.decay.val s.steps))
      ((layerIdxs c).foldl (fwdStep c (s.hyper.decay.val s.steps)) s)) := he
  refine foldl_rel (Rel c) (bwdStep c _) (Spec.bwdBody (Spec.ofCfg c) _) (revLayers c) (fun s x => bwdStep_ok)
    (fun s t l hl h he => bwdStep_rel hw0 _ (mem_revLayers.mp hl) h he) _ _ ?_ he'
  exact foldl_rel (Rel c) (fwdStep c _) (Spec.fwdBody (Spec.ofCfg c) _) (layerIdxs c) (fun s x => fwdStep_ok)
    (fun s t l hl h he => fwdStep_rel hw0 _ (mem_layerIdxs.mp hl) h he) _ _ h (foldl_mono OK _ (fun s x => bwdStep_ok) _ _ he')

theorem Rel.mapLayers {c s s' t} (h : Rel c s t) {G : Nat → Nat → LV → LV}
    (e : Eff c s s' (fun r l => r < c.world ∧ l < c.layers.length) G) (F : Nat → Spec.SLayer → Spec.SLayer)
    (hF : ∀ l, l < c.layers.length → TLay c (F l (Spec.getS t l)) ∧
      ∀ r, r < c.world → CellRel c r l (G r l (cell s r l)) (F l (Spec.getS t l))) :
    Rel c s' ((List.range c.layers.length).foldl (fun t l => Spec.setS t l (F l (Spec.getS t l))) t) := by
  refine ⟨List.foldlRecOn _ _ (h.toGlob.same e.same) fun _ g l _ => g.setS l _, e.shape,
    (foldl_pres (fun t : Spec.SSt => t.layers.length) _ (fun _ _ => Spec.setS_len ..) _ _).trans h.tlen, fun l hl => ?_⟩
  rw [Spec.getS_foldl_setS F List.nodup_range, if_pos ⟨List.mem_range.mpr hl, h.tlen ▸ hl⟩]
  refine ⟨(hF l hl).1, fun r hr => ?_⟩
  rw [e.hit r l ⟨hr, hl⟩]
  exact (hF l hl).2 r hr

theorem resetBatch_err (c : Cfg) (s : St) : (Precond.resetBatch c s).err = s.err :=
  resetBatch_eq c s ▸ mapCells_err ..

theorem resetBatch_rel {c s t} (h : Rel c s t) :
    Rel c (Precond.resetBatch c s) (Spec.resetBatch (Spec.ofCfg c) t) := by
  refine h.mapLayers
    (resetBatch_eq c s ▸ mapCells_eff h.shape
      (G := fun _ _ v => { v with aBatch := none, aCount := 0, gBatch := none, gCount := 0 })
      fun _ _ _ => rfl)
    (fun _ y => { y with aBatch := none, aCount := 0, gBatch := none, gCount := 0 })
    fun l hl => ⟨⟨fun b hb => by simp at hb, fun b hb => by simp at hb⟩, fun r hr => ?_⟩
  exact (((h.lay l hl).2 r hr).ofSetBatch true (B := none) rfl rfl).ofSetBatch false (B := none) rfl rfl

theorem Cell.rd_lv (f : Fld) (x : LState) : (Cell.rd f x).All fun y => lv y = lv x := by
  show lv (x.set f _) = lv x
  rw [lv_set, show sv (HR.rdVal (x.get f)) = sv (x.get f) from rdVal_val _, ← lv_get]
  exact LV.set_get ..

theorem memUsage_neutral {c s} (hs : Shape c s) : Neutral c s (Precond.memUsage c s) := by
  rw [memUsage_eq]
  exact (flushBucket_neutral hs).trans
    (eachCell_neutral (flushBucket_neutral hs).shape (fun _ => mem_layerIdxs.mp) fun f _ => Cell.rd_lv f)

theorem saveState_neutral {c s} (hs : Shape c s) (inclF : Bool) : Neutral c s (Precond.saveState c s inclF) := by
  rw [saveState_eq]
  split
  · exact Neutral.refl hs
  · exact eachCell_neutral hs (fun _ => mem_layerIdxs.mp) fun f _ => Cell.rd_lv f

end KV.Refine
