/-
Facts about the list utilities the models share (Model/Basic.lean: `argminIdx`, `insertBy` / `sortBy`), and the
facts about `getD`, `set`, `find?`, `eraseDups`, folds and equal-length blocks on plain lists.
Core Lean only.
-/
import KfacVerif.Model.Basic

namespace KV

theorem getD_mem_of_lt {α} (l : List α) (j : Nat) (d : α) (h : j < l.length) : l.getD j d ∈ l :=
  List.getElem_eq_getD (h := h) d ▸ List.getElem_mem h

theorem getD_map_of_lt {α β} (f : α → β) (l : List α) (i : Nat) (d : β) (h : i < l.length) :
    (l.map f).getD i d = f l[i] := by
  rw [← List.getElem_eq_getD (h := by rwa [List.length_map]), List.getElem_map]

theorem getD_map_default {α β} (f : α → β) (v : List α) (k : Nat) (d : α) :
    (v.map f).getD k (f d) = f (v.getD k d) := by
  simp only [List.getD_eq_getElem?_getD, List.getElem?_map]
  cases v[k]? <;> rfl

theorem getD_map_range {α} (f : Nat → α) (n r : Nat) (d : α) (hr : r < n) :
    ((List.range n).map f).getD r d = f r := by
  rw [getD_map_of_lt f _ r d (by rwa [List.length_range]), List.getElem_range]

theorem getD_replicate_self {α} (n j : Nat) (a : α) : (List.replicate n a).getD j a = a := by
  rw [List.getD_eq_getElem?_getD, List.getElem?_replicate]
  split <;> rfl

theorem getD_append_lt {α} (l l' : List α) (d : α) (i : Nat) (h : i < l.length) :
    (l ++ l').getD i d = l.getD i d := by
  rw [List.getD_eq_getElem?_getD, List.getD_eq_getElem?_getD, List.getElem?_append_left h]

theorem getD_append_len {α} (l : List α) (m d : α) : (l ++ [m]).getD l.length d = m := by
  rw [List.getD_eq_getElem?_getD, List.getElem?_concat_length]; rfl

theorem range_map_getD {α} (l : List α) (d : α) : (List.range l.length).map (fun j => l.getD j d) = l :=
  List.ext_getElem (by simp) fun i _ h => by rw [List.getElem_map, List.getElem_range, List.getElem_eq_getD]

theorem nodup_eraseDups {α} [BEq α] [LawfulBEq α] (l : List α) : l.eraseDups.Nodup := by
  match l with
  | [] => rw [List.eraseDups_nil]; exact List.nodup_nil
  | a :: as =>
    rw [List.eraseDups_cons, List.nodup_cons]
    refine ⟨fun hm => ?_, nodup_eraseDups _⟩
    -- `a` itself does not pass the filter
    have := (List.mem_filter.1 (List.mem_eraseDups.1 hm)).2
    rw [beq_self_eq_true] at this
    cases this
termination_by l.length
decreasing_by exact Nat.lt_succ_of_le (List.length_filter_le _ as)

theorem find?_unique {α} {l : List α} {p : α → Bool} {x : α} (hx : x ∈ l) (hp : p x = true)
    (hu : ∀ y ∈ l, p y = true → y = x) : l.find? p = some x := by
  cases hf : l.find? p with
  | none => exact absurd hp (by simpa using List.find?_eq_none.1 hf x hx)
  | some y => rw [hu y (List.mem_of_find?_eq_some hf) (List.find?_some hf)]

theorem le_foldl_max : ∀ (xs : List Nat) (init : Nat),
    init ≤ xs.foldl max init ∧ ∀ x ∈ xs, x ≤ xs.foldl max init
  | [], init => ⟨Nat.le_refl _, by simp⟩
  | y :: ys, init => by
    obtain ⟨h1, h2⟩ := le_foldl_max ys (max init y)
    refine ⟨Nat.le_trans (Nat.le_max_left ..) h1, fun x hx => ?_⟩
    rcases List.mem_cons.1 hx with rfl | hx
    · exact Nat.le_trans (Nat.le_max_right ..) h1
    · exact h2 x hx

theorem le_foldl_max_map {α} (f : α → Nat) {l : List α} {a : α} (h : a ∈ l) :
    f a ≤ (l.map f).foldl max 0 :=
  (le_foldl_max _ 0).2 _ (List.mem_map_of_mem h)

theorem foldl_pres {α β γ : Type _} (p : β → γ) (f : β → α → β) (h : ∀ b a, p (f b a) = p b)
    (L : List α) (b : β) : p (L.foldl f b) = p b :=
  List.foldlRecOn (motive := fun b' => p b' = p b) L f rfl fun b' hb a _ => (h b' a).trans hb

theorem foldl_estab {α σ : Type _} (I P : σ → Prop) (f : σ → α → σ) (k : α) (l : List α) (hk : k ∈ l) (s : σ)
    (hi : I s) (hI : ∀ s a, a ∈ l → I s → I (f s a)) (hkeep : ∀ s a, a ∈ l → I s → P s → P (f s a))
    (hest : ∀ s, I s → P (f s k)) : P (l.foldl f s) := by
  obtain ⟨pre, post, rfl⟩ := List.append_of_mem hk
  rw [List.foldl_append, List.foldl_cons]
  have h1 : I (pre.foldl f s) := List.foldlRecOn pre f hi fun s hs a ha => hI s a (by simp [ha]) hs
  exact (List.foldlRecOn (motive := fun s => I s ∧ P s) post f ⟨hI _ _ hk h1, hest _ h1⟩
    fun s h a ha => ⟨hI s a (by simp [ha]) h.1, hkeep s a (by simp [ha]) h.1 h.2⟩).2

theorem foldl_congr_inv {α σ : Type _} (P : σ → Prop) (f f' : σ → α → σ) (l : List α)
    (h : ∀ s a, P s → a ∈ l → f' s a = f s a ∧ P (f s a)) (s : σ) (hs : P s) : l.foldl f' s = l.foldl f s := by
  induction l generalizing s with
  | nil => rfl
  | cons a t ih =>
    obtain ⟨e, hp⟩ := h s a hs (by simp)
    rw [List.foldl_cons, List.foldl_cons, e]
    exact ih (fun s' b hs' hb => h s' b hs' (List.mem_cons_of_mem _ hb)) _ hp

theorem two_le_length_of_mem {α} {m : List α} {a : α} (ha : a ∈ m) (h1 : ¬ (m.length == 1) = true) :
    2 ≤ m.length := by
  have h0 : m.length ≠ 0 := fun h0 => by rw [List.length_eq_zero_iff.mp h0] at ha; cases ha
  have : m.length ≠ 1 := by simpa using h1
  omega

theorem getD_set {α} (ls : List α) (i j : Nat) (a d : α) :
    (ls.set i a).getD j d = if j = i ∧ i < ls.length then a else ls.getD j d := by
  rw [List.getD_eq_getElem?_getD, List.getD_eq_getElem?_getD, List.getElem?_set]
  by_cases h : i = j
  · subst h
    by_cases h2 : i < ls.length
    · rw [if_pos rfl, if_pos h2, if_pos ⟨rfl, h2⟩]; rfl
    · rw [if_pos rfl, if_neg h2, if_neg (fun k => h2 k.2), List.getElem?_eq_none (Nat.le_of_not_lt h2)]
  · rw [if_neg h, if_neg (fun k => h k.1.symm)]

/-! ### a list of blocks of one length, flattened; a list cut into such blocks -/

theorem flatten_chunks {α} (l : List α) (k m : Nat) :
    ((List.range m).map fun i => (l.drop (i * k)).take k).flatten = l.take (m * k) := by
  induction m with
  | zero => simp
  | succ m ih =>
    rw [List.range_succ, List.map_append, List.flatten_append, ih, Nat.succ_mul, List.take_add]
    simp

theorem flatten_chunks_all {α} (l : List α) (k m : Nat) (h : l.length = m * k) :
    ((List.range m).map fun i => (l.drop (i * k)).take k).flatten = l := by
  rw [flatten_chunks, ← h, List.take_length]

theorem chunk_flatten {α} (parts : List (List α)) (k : Nat) (hp : ∀ p ∈ parts, p.length = k)
    (i : Nat) (hi : i < parts.length) :
    (parts.flatten.drop (i * k)).take k = parts[i] := by
  induction parts generalizing i with
  | nil => simp at hi
  | cons p ps ih =>
    have hpl : p.length = k := hp p (by simp)
    cases i with
    | zero =>
      simp only [List.flatten_cons, Nat.zero_mul, List.drop_zero, List.getElem_cons_zero]
      rw [← hpl, List.take_left]
    | succ i =>
      have e : (i + 1) * k = p.length + i * k := by rw [hpl, Nat.succ_mul, Nat.add_comm]
      simp only [List.flatten_cons, List.getElem_cons_succ]
      rw [e, ← List.drop_drop, List.drop_left]
      exact ih (fun q hq => hp q (by simp [hq])) i (by simpa using hi)

theorem length_flatten_const {α} (parts : List (List α)) (k : Nat) (hp : ∀ p ∈ parts, p.length = k) :
    parts.flatten.length = parts.length * k := by
  induction parts with
  | nil => simp
  | cons p ps ih =>
    simp only [List.flatten_cons, List.length_append, List.length_cons]
    rw [ih (fun q hq => hp q (by simp [hq])), hp p (by simp), Nat.succ_mul, Nat.add_comm]

theorem argminIdx_cons_cons (x y : Nat) (ys : List Nat) :
    argminIdx (x :: y :: ys) =
      if x ≤ (y :: ys).getD (argminIdx (y :: ys)) 0 then 0 else argminIdx (y :: ys) + 1 := by
  rfl

theorem argminIdx_spec : ∀ (l : List Nat), l ≠ [] →
    argminIdx l < l.length ∧
    (∀ j, j < l.length → l.getD (argminIdx l) 0 ≤ l.getD j 0) ∧
    (∀ j, j < argminIdx l → l.getD (argminIdx l) 0 < l.getD j 0)
  | [], h => absurd rfl h
  | [x], _ => ⟨Nat.zero_lt_one, fun j hj => by rw [Nat.lt_one_iff.1 hj]; exact Nat.le_refl _,
      fun j hj => absurd hj (Nat.not_lt_zero _)⟩
  | x :: y :: ys, _ => by
    obtain ⟨h1, h2, h3⟩ := argminIdx_spec (y :: ys) (List.cons_ne_nil _ _)
    rw [argminIdx_cons_cons]
    split
    · next hle =>
      -- the head is a minimum: it is at most the least of the tail
      refine ⟨Nat.zero_lt_succ _, fun j hj => ?_, fun j hj => absurd hj (Nat.not_lt_zero _)⟩
      cases j with
      | zero => exact Nat.le_refl _
      | succ j => exact Nat.le_trans hle (h2 j (Nat.lt_of_succ_lt_succ hj))
    · next hle =>
      -- the least of the tail is strictly below the head
      have hlt := Nat.lt_of_not_le hle
      refine ⟨Nat.succ_lt_succ h1, fun j hj => ?_, fun j hj => ?_⟩
      · cases j with
        | zero => exact Nat.le_of_lt hlt
        | succ j => exact h2 j (Nat.lt_of_succ_lt_succ hj)
      · cases j with
        | zero => exact hlt
        | succ j => exact h3 j (Nat.lt_of_succ_lt_succ hj)

/-- the default `d` is never reached -/
theorem argminIdx_map {α} (f : α → Nat) {L : List α} (hL : L ≠ []) (d : α) :
    argminIdx (L.map f) < L.length ∧
    (∀ j, j < L.length → f (L.getD (argminIdx (L.map f)) d) ≤ f (L.getD j d)) ∧
    (∀ j, j < argminIdx (L.map f) → f (L.getD (argminIdx (L.map f)) d) < f (L.getD j d)) := by
  have key : ∀ j, j < L.length → (L.map f).getD j 0 = f (L.getD j d) := fun j h => by
    simp [List.getD_eq_getElem?_getD, h]
  obtain ⟨h1, h2, h3⟩ := argminIdx_spec (L.map f) (by simpa using hL)
  rw [List.length_map] at h1 h2
  refine ⟨h1, fun j hj => ?_, fun j hj => ?_⟩
  · rw [← key _ h1, ← key j hj]; exact h2 j hj
  · rw [← key _ h1, ← key j (by omega)]; exact h3 j hj

theorem argmin_mem_le {α} (f : α → Nat) {L : List α} (hL : L ≠ []) (d : α) :
    L.getD (argminIdx (L.map f)) d ∈ L ∧ ∀ x ∈ L, f (L.getD (argminIdx (L.map f)) d) ≤ f x := by
  obtain ⟨h1, h2, _⟩ := argminIdx_map f hL d
  refine ⟨getD_mem_of_lt _ _ _ h1, fun x hx => ?_⟩
  obtain ⟨j, hj, rfl⟩ := List.getElem_of_mem hx
  simpa [List.getD_eq_getElem?_getD, hj] using h2 j hj

section sort
variable {α : Type _}

theorem insertBy_perm (le : α → α → Bool) (a : α) : ∀ t, (insertBy le a t).Perm (a :: t)
  | [] => .refl _
  | b :: t => by
    simp only [insertBy]; split
    · exact .refl _
    · exact ((insertBy_perm le a t).cons b).trans (.swap a b t)

theorem sortBy_perm (le : α → α → Bool) : ∀ l, (sortBy le l).Perm l
  | [] => .refl _
  | a :: t => (insertBy_perm le a _).trans ((sortBy_perm le t).cons a)

theorem insertBy_sorted (le : α → α → Bool)
    (total : ∀ a b, le a b = false → le b a = true)
    (trans : ∀ a b c, le a b = true → le b c = true → le a c = true) (a : α) :
    ∀ t, t.Pairwise (fun x y => le x y = true) → (insertBy le a t).Pairwise (fun x y => le x y = true)
  | [], _ => by simp [insertBy]
  | b :: t, h => by
    rw [List.pairwise_cons] at h
    simp only [insertBy]; split
    · rename_i hab
      refine List.pairwise_cons.2 ⟨?_, List.pairwise_cons.2 h⟩
      intro x hx
      rcases List.mem_cons.1 hx with rfl | hx
      · exact hab
      · exact trans _ _ _ hab (h.1 x hx)
    · rename_i hab
      refine List.pairwise_cons.2 ⟨?_, insertBy_sorted le total trans a t h.2⟩
      intro x hx
      have hx' := (insertBy_perm le a t).mem_iff.1 hx
      rcases List.mem_cons.1 hx' with rfl | hx'
      · exact total _ _ (by simpa using hab)
      · exact h.1 x hx'

theorem sortBy_sorted (le : α → α → Bool)
    (total : ∀ a b, le a b = false → le b a = true)
    (trans : ∀ a b c, le a b = true → le b c = true → le a c = true) :
    ∀ l, (sortBy le l).Pairwise (fun x y => le x y = true)
  | [] => List.Pairwise.nil
  | a :: t => insertBy_sorted le total trans a _ (sortBy_sorted le total trans t)

theorem filter_insertBy_pos (le : α → α → Bool) (p : α → Bool) (a : α) (hpa : p a = true)
    (h : ∀ b, p b = true → le a b = true) :
    ∀ t, (insertBy le a t).filter p = a :: t.filter p
  | [] => by simp [insertBy, hpa]
  | b :: t => by
    simp only [insertBy]; split
    · simp [List.filter_cons, hpa]
    · rename_i hab
      have hpb : p b = false := by
        cases hb : p b with
        | false => rfl
        | true => exact absurd (h b hb) hab
      simp [hpb, filter_insertBy_pos le p a hpa h t]

theorem filter_insertBy_neg (le : α → α → Bool) (p : α → Bool) (a : α) (hpa : p a = false) :
    ∀ t, (insertBy le a t).filter p = t.filter p
  | [] => by simp [insertBy, hpa]
  | b :: t => by
    simp only [insertBy]; split
    · simp [List.filter_cons, hpa]
    · simp [List.filter_cons, filter_insertBy_neg le p a hpa t]

/-- stability: if `le a b` holds whenever `a`, `b` are both in the class `p`, the class keeps its order -/
theorem filter_sortBy (le : α → α → Bool) (p : α → Bool)
    (h : ∀ a b, p a = true → p b = true → le a b = true) :
    ∀ l, (sortBy le l).filter p = l.filter p
  | [] => rfl
  | a :: t => by
    simp only [sortBy]
    cases hpa : p a with
    | true =>
      rw [filter_insertBy_pos le p a hpa (fun b hb => h a b hpa hb), filter_sortBy le p h t]
      simp [hpa]
    | false =>
      rw [filter_insertBy_neg le p a hpa, filter_sortBy le p h t]
      simp [hpa]

end sort

end KV
