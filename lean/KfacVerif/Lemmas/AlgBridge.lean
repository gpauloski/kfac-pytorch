/-
C01: the two preconditioning formulas as Mathlib matrix expressions, the facts that make them THE
solutions of the damped Kronecker systems, and the bridge from the executable list matrices
`KV.Alg.Mat` (every operation is an `ofFn`) to `Matrix (Fin m) (Fin n) ℚ`.
-/
import KfacVerif.Lemmas.AlgLayout
import Mathlib.LinearAlgebra.Matrix.NonsingularInverse
import Mathlib.Algebra.BigOperators.Fin

namespace KV.AlgBridge
open Matrix

section Generic
variable {K : Type*} [Field K] {m n : Type*} [Fintype m] [DecidableEq m] [Fintype n] [DecidableEq n]

theorem sandwich_cancel {P P' : Matrix m m K} {R R' : Matrix n n K} (hP : P * P' = 1) (hR : R' * R = 1)
    (D : Matrix m n K) : P * (P' * D * R') * R = D := by
  rw [← Matrix.mul_assoc, ← Matrix.mul_assoc, hP, Matrix.one_mul, Matrix.mul_assoc, hR, Matrix.mul_one]

/-- multiplying on both sides by matrices with two-sided inverses is a bijection; used with
    `P' = P⁻¹` (inverse method) and with `P' = Pᵀ` for orthogonal `P` (eigen method) -/
theorem sandwich_iff {P P' : Matrix m m K} {R R' : Matrix n n K} (hP : P' * P = 1) (hP' : P * P' = 1)
    (hR : R * R' = 1) (hR' : R' * R = 1) {W D : Matrix m n K} : P * W * R = D ↔ W = P' * D * R' :=
  ⟨fun h => by rw [← h, sandwich_cancel hP hR], fun h => by rw [h, sandwich_cancel hP' hR']⟩

theorem inv_sandwich_iff {M : Matrix m m K} {N : Matrix n n K} (hM : IsUnit M.det) (hN : IsUnit N.det)
    {W D : Matrix m n K} : M * W * N = D ↔ W = M⁻¹ * D * N⁻¹ :=
  sandwich_iff (nonsing_inv_mul _ hM) (mul_nonsing_inv _ hM) (mul_nonsing_inv _ hN) (nonsing_inv_mul _ hN)

theorem diag_iff (dg : m → K) (da : n → K) (lam : K) (E W : Matrix m n K)
    (hne : ∀ i j, dg i * da j + lam ≠ 0) :
    diagonal dg * W * diagonal da + lam • W = E ↔ W = Matrix.of fun i j => E i j / (dg i * da j + lam) := by
  simp only [← Matrix.ext_iff, Matrix.add_apply, Matrix.mul_diagonal, Matrix.diagonal_mul, Matrix.smul_apply,
    smul_eq_mul, Matrix.of_apply, eq_div_iff (hne _ _)]
  -- both sides say `W i j * (dg i * da j + lam) = E i j`
  refine forall₂_congr fun i j => ?_
  rw [← mul_right_comm, ← add_mul, mul_comm]

/-- `G V A + λ V = D` has exactly one solution, the eigen-method formula (`C01.eigenPrecond`) -/
theorem eigen_iff (Qg : Matrix m m K) (Qa : Matrix n n K) (dg : m → K) (da : n → K) (lam : K)
    (D V : Matrix m n K) (hg : Qg * Qgᵀ = 1) (hg' : Qgᵀ * Qg = 1) (ha : Qa * Qaᵀ = 1) (ha' : Qaᵀ * Qa = 1)
    (hne : ∀ i j, dg i * da j + lam ≠ 0) :
    (Qg * diagonal dg * Qgᵀ) * V * (Qa * diagonal da * Qaᵀ) + lam • V = D ↔
      V = Qg * (Matrix.of fun i j => (Qgᵀ * D * Qa) i j / (dg i * da j + lam)) * Qaᵀ := by
  -- in the eigenbases, `W = Qgᵀ V Qa` solves the diagonal system with right side `Qgᵀ D Qa` …
  refine Iff.trans ?_ ((sandwich_iff hg' hg ha' ha).trans
    ((diag_iff dg da lam _ (Qgᵀ * V * Qa) hne).trans (sandwich_iff hg hg' ha ha')))
  -- … whose left side `Qg (diag dg W diag da + lam W) Qaᵀ` is that of the system
  rw [Matrix.mul_add, Matrix.add_mul, Matrix.mul_smul, Matrix.smul_mul, sandwich_cancel hg ha]
  simp only [Matrix.mul_assoc]

end Generic

open KV.Alg

theorem sumTo_eq_sum (n : ℕ) (f : ℕ → ℚ) : sumTo n f = ∑ t : Fin n, f t := by
  induction n with
  | zero => rw [sumTo_zero', Fin.sum_univ_zero]
  | succ k ih => rw [sumTo_succ', ih, Fin.sum_univ_castSucc]; rfl

end KV.AlgBridge

namespace KV.C01
open Matrix

variable {K : Type*} [Field K] {m n : Type*} [Fintype m] [DecidableEq m] [Fintype n] [DecidableEq n]

/-- `qg @ ((qg.t() @ D @ qa) / (outer(dg, da) + damping)) @ qa.t()` -/
def eigenPrecond (Qg : Matrix m m K) (Qa : Matrix n n K) (dg : m → K) (da : n → K) (lam : K)
    (D : Matrix m n K) : Matrix m n K :=
  Qg * (Matrix.of fun i j => (Qgᵀ * D * Qa) i j / (dg i * da j + lam)) * Qaᵀ

/-- the pre-divided variant: `qg @ ((qg.t() @ D @ qa) * dgda) @ qa.t()`, `dgda = 1/(outer+damping)` -/
def eigenPrecondPre (Qg : Matrix m m K) (Qa : Matrix n n K) (dgda : Matrix m n K) (D : Matrix m n K) :
    Matrix m n K :=
  Qg * (Matrix.of fun i j => (Qgᵀ * D * Qa) i j * dgda i j) * Qaᵀ

/-- `g_inv @ D @ a_inv` -/
def invPrecond (Ginv : Matrix m m K) (Ainv : Matrix n n K) (D : Matrix m n K) : Matrix m n K := Ginv * D * Ainv

def toM (g a : ℕ) (A : KV.Alg.Mat) : Matrix (Fin g) (Fin a) ℚ := fun i j => KV.Alg.ent A i j
def toV (a : ℕ) (v : List ℚ) : Fin a → ℚ := fun i => v.getD i 0

open KV.Alg KV.AlgBridge

/-- every operation of `KV.Alg` is an `ofFn`; this is the only place where list indexing is unfolded -/
theorem toM_ofFn (m n : ℕ) (f : ℕ → ℕ → ℚ) :
    toM m n (ofFn m n f) = Matrix.of fun (i : Fin m) (j : Fin n) => f i j := by
  ext i j
  exact ent_ofFn f i.2 j.2

theorem toM_apply (m n : ℕ) (A : Mat) (i : Fin m) (j : Fin n) : toM m n A i j = ent A i j := rfl

theorem toM_mul (m k n : ℕ) (A B : Mat) : toM m n (mul m k n A B) = toM m k A * toM k n B := by
  rw [mul, toM_ofFn]
  ext i j
  simp only [of_apply, sumTo_eq_sum, Matrix.mul_apply, toM_apply]

theorem toM_tr (m n : ℕ) (A : Mat) : toM n m (tr m n A) = (toM m n A)ᵀ := by
  rw [tr, toM_ofFn]; rfl

theorem toM_add (m n : ℕ) (A B : Mat) : toM m n (add m n A B) = toM m n A + toM m n B := by
  rw [Alg.add, toM_ofFn]; rfl

theorem toM_smul (m n : ℕ) (c : ℚ) (A : Mat) : toM m n (Alg.smul m n c A) = c • toM m n A := by
  rw [Alg.smul, toM_ofFn]; rfl

theorem toM_ident (k : ℕ) : toM k k (ident k) = 1 := by
  rw [ident, toM_ofFn]
  ext i j
  simp [Matrix.one_apply, Fin.ext_iff]

theorem toM_had (m n : ℕ) (A B : Mat) :
    toM m n (had m n A B) = Matrix.of fun i j => toM m n A i j * toM m n B i j := by
  rw [had, toM_ofFn]; rfl

theorem toM_divPlus (m n : ℕ) (A B : Mat) (lam : ℚ) :
    toM m n (divPlus m n A B lam) = Matrix.of fun i j => toM m n A i j / (toM m n B i j + lam) := by
  rw [divPlus, toM_ofFn]; rfl

theorem toM_outer (u v : List ℚ) :
    toM u.length v.length (outer u v) = Matrix.of fun i j => toV u.length u i * toV v.length v j := by
  rw [outer, toM_ofFn]; rfl

end KV.C01
