/-
The definitions in which Props/C09 is stated, and the facts behind it on the reference machine.  `SFP P`
relates states with the same future, the second-order data compared on the layers in `P` only.  Passes,
`resetBatch` and a checkpoint round trip keep `SFP P` for any `P` (`SFP.fwdBwd`, `SFP.resetBatch`,
`SFP.saveLoad_eq`); `step` needs all layers in `P` or an inverse update, and relates all layers afterwards
(`SFP.step`); so `SFP AllL` is kept by every operation (`SFP.exec`).  A checkpoint round trip from a
`Boundary` state lands in `SFP NoL` (`saveLoad_rel`).  Core Lean only.
-/
import KfacVerif.Lemmas.SpecFrames

namespace KV.C09
open KV KV.Precond KV.Spec

/-- nothing accumulated: micro-step counters zero, batches empty and batch counts zero, as after construction,
    after a load, or after a step followed by `reset_batch`.  A step alone does not give this: `updateReduce`
    empties the batches and leaves the counts where they were. -/
def Boundary (c : SCfg) (s : SSt) : Prop :=
  s.mini = List.replicate c.nLayers 0 ∧ s.layers.length = c.nLayers ∧
  ∀ x ∈ s.layers, x.aBatch = none ∧ x.gBatch = none ∧ x.aCount = 0 ∧ x.gCount = 0

/-- second-order data recomputed from the current factors with the damping read now -/
def refreshAll (c : SCfg) (s : SSt) : SSt :=
  (idxs c).foldl (fun t l => Spec.refresh c t l (s.hyper.damping.val s.steps)) s

/-- everything that can influence the future (the gradients of the last step are not part of it) -/
def SameFuture (s s' : SSt) : Prop :=
  s.steps = s'.steps ∧ s.mini = s'.mini ∧ s.pass = s'.pass ∧ s.layers = s'.layers ∧
  s.hyper = s'.hyper ∧ s.defs = s'.defs

/-- the gradients produced by each step of a continuation -/
def outsOf (c : SCfg) : SSt → List Op → List (List V)
  | _, [] => []
  | s, op :: t =>
    let s' := Spec.exec c s op
    match op with
    | .step => s'.out :: outsOf c s' t
    | _ => outsOf c s' t

/-- stale second-order fields that `precond` never reads in the configured mode are ignored -/
def SameFutureUpTo (c : SCfg) (s s' : SSt) : Prop :=
  s.steps = s'.steps ∧ s.mini = s'.mini ∧ s.pass = s'.pass ∧ s.hyper = s'.hyper ∧ s.defs = s'.defs ∧
  s.layers.length = s'.layers.length ∧
  ∀ l, let x := getS s l; let y := getS s' l
    x.aBatch = y.aBatch ∧ x.aCount = y.aCount ∧ x.gBatch = y.gBatch ∧ x.gCount = y.gCount ∧
    x.aFactor = y.aFactor ∧ x.gFactor = y.gFactor ∧
    (match c.method with
     | .inverse => x.aInv = y.aInv ∧ x.gInv = y.gInv
     | .eigen => x.qa = y.qa ∧ x.qg = y.qg ∧
        (if c.prediv then x.dgda = y.dgda else x.da = y.da ∧ x.dg = y.dg))

def soRel (c : SCfg) (x y : SLayer) : Prop :=
  match c.method with
  | .inverse => x.aInv = y.aInv ∧ x.gInv = y.gInv
  | .eigen => x.qa = y.qa ∧ x.qg = y.qg ∧
      (if c.prediv then x.dgda = y.dgda else x.da = y.da ∧ x.dg = y.dg)

def relP (p : Prop) (c : SCfg) (x y : SLayer) : Prop :=
  x.aBatch = y.aBatch ∧ x.aCount = y.aCount ∧ x.gBatch = y.gBatch ∧ x.gCount = y.gCount ∧
  x.aFactor = y.aFactor ∧ x.gFactor = y.gFactor ∧ (p → soRel c x y)

/-- `SameFutureUpTo` (`SFU_iff`), with the second-order part restricted to the layers in `P` -/
structure SFP (P : Nat → Prop) (c : SCfg) (s s' : SSt) : Prop where
  steps : s.steps = s'.steps
  mini : s.mini = s'.mini
  pass : s.pass = s'.pass
  hyper : s.hyper = s'.hyper
  defs : s.defs = s'.defs
  len : s.layers.length = s'.layers.length
  lay : ∀ l, relP (P l) c (getS s l) (getS s' l)

abbrev AllL : Nat → Prop := fun _ => True
abbrev NoL : Nat → Prop := fun _ => False

theorem SFU_iff (c : SCfg) (s s' : SSt) : SameFutureUpTo c s s' ↔ SFP AllL c s s' := by
  have hl : ∀ l, relP True c (getS s l) (getS s' l) ↔ _ := fun l => by
    unfold relP; rw [true_imp_iff]
  constructor
  · intro h
    exact ⟨h.1, h.2.1, h.2.2.1, h.2.2.2.1, h.2.2.2.2.1, h.2.2.2.2.2.1, fun l => (hl l).mpr (h.2.2.2.2.2.2 l)⟩
  · intro h
    exact ⟨h.steps, h.mini, h.pass, h.hyper, h.defs, h.len, fun l => (hl l).mp (h.lay l)⟩

theorem soRel_refl (c : SCfg) (x : SLayer) : soRel c x x := by
  unfold soRel; cases c.method <;> cases c.prediv <;> simp

theorem soRel_symm {c : SCfg} {x y : SLayer} (h : soRel c x y) : soRel c y x := by
  cases hm : c.method <;> cases hp : c.prediv <;> simp_all [soRel]

theorem soRel_trans {c : SCfg} {x y z : SLayer} (h : soRel c x y) (h' : soRel c y z) : soRel c x z := by
  cases hm : c.method <;> cases hp : c.prediv <;> simp_all [soRel]

theorem relP_refl (p : Prop) (c : SCfg) (x : SLayer) : relP p c x x :=
  ⟨rfl, rfl, rfl, rfl, rfl, rfl, fun _ => soRel_refl c x⟩

theorem relP_symm {p : Prop} {c : SCfg} {x y : SLayer} (h : relP p c x y) : relP p c y x := by
  obtain ⟨h1, h2, h3, h4, h5, h6, h7⟩ := h
  exact ⟨h1.symm, h2.symm, h3.symm, h4.symm, h5.symm, h6.symm, fun hp => soRel_symm (h7 hp)⟩

theorem relP_trans {p : Prop} {c : SCfg} {x y z : SLayer} (h : relP p c x y) (h' : relP p c y z) :
    relP p c x z := by
  obtain ⟨h1, h2, h3, h4, h5, h6, h7⟩ := h
  obtain ⟨g1, g2, g3, g4, g5, g6, g7⟩ := h'
  exact ⟨h1.trans g1, h2.trans g2, h3.trans g3, h4.trans g4, h5.trans g5, h6.trans g6,
    fun hp => soRel_trans (h7 hp) (g7 hp)⟩

theorem relP_mono {p q : Prop} {c : SCfg} {x y : SLayer} (hqp : q → p) (h : relP p c x y) : relP q c x y := by
  obtain ⟨h1, h2, h3, h4, h5, h6, h7⟩ := h
  exact ⟨h1, h2, h3, h4, h5, h6, fun hq => h7 (hqp hq)⟩

theorem relP_oob {p : Prop} {c : SCfg} {s s' : SSt} {l : Nat} (h : s.layers.length ≤ l) (h' : s'.layers.length ≤ l) :
    relP p c (getS s l) (getS s' l) := by
  rw [getS_oob s l h, getS_oob s' l h']
  exact relP_refl _ _ _

theorem relP_false {c : SCfg} {x y : SLayer} (hb : batOf x = batOf y) (hf : facOf x = facOf y) : relP False c x y := by
  simp only [batOf, facOf, Prod.mk.injEq] at hb hf
  exact ⟨hb.1, hb.2.1, hb.2.2.1, hb.2.2.2, hf.1, hf.2, fun h => h.elim⟩

namespace SFP
variable {P Q : Nat → Prop} {c : SCfg} {s s' s'' : SSt}

theorem refl (P : Nat → Prop) (c : SCfg) (s : SSt) : SFP P c s s :=
  ⟨rfl, rfl, rfl, rfl, rfl, rfl, fun _ => relP_refl _ _ _⟩

theorem symm (h : SFP P c s s') : SFP P c s' s :=
  ⟨h.steps.symm, h.mini.symm, h.pass.symm, h.hyper.symm, h.defs.symm, h.len.symm, fun l => relP_symm (h.lay l)⟩

theorem trans (h : SFP P c s s') (h' : SFP P c s' s'') : SFP P c s s'' :=
  ⟨h.steps.trans h'.steps, h.mini.trans h'.mini, h.pass.trans h'.pass, h.hyper.trans h'.hyper,
   h.defs.trans h'.defs, h.len.trans h'.len, fun l => relP_trans (h.lay l) (h'.lay l)⟩

theorem mono (h : SFP P c s s') (hQ : ∀ k, Q k → P k) : SFP Q c s s' :=
  ⟨h.steps, h.mini, h.pass, h.hyper, h.defs, h.len, fun l => relP_mono (hQ l) (h.lay l)⟩

theorem extend (h : SFP P c s s') (n : Nat) (hn : s.layers.length = n) : SFP (fun k => P k ∨ n ≤ k) c s s' := by
  refine ⟨h.steps, h.mini, h.pass, h.hyper, h.defs, h.len, fun l => ?_⟩
  by_cases hl : n ≤ l
  · exact relP_oob (hn ▸ hl) (h.len ▸ hn ▸ hl)
  · exact relP_mono (fun hq => hq.resolve_right hl) (h.lay l)

/-- the written index may join `P` -/
theorem setS' (h : SFP P c s s') (l : Nat) {x y : SLayer} (hQ : ∀ k, k ≠ l → Q k → P k)
    (hx : relP (Q l) c x y) : SFP Q c (setS s l x) (setS s' l y) := by
  refine ⟨h.steps, h.mini, h.pass, h.hyper, h.defs,
    (setS_len s l x).trans (h.len.trans (setS_len s' l y).symm), fun k => ?_⟩
  by_cases hk : k = l
  · subst hk
    by_cases hl : k < s.layers.length
    · rw [getS_setS_self _ _ _ hl, getS_setS_self _ _ _ (h.len ▸ hl)]
      exact hx
    · -- nothing is written
      have hl := Nat.le_of_not_lt hl
      rw [setS_oob _ _ _ hl, setS_oob _ _ _ (h.len ▸ hl)]
      exact relP_oob hl (h.len ▸ hl)
  · rw [getS_setS_ne _ _ hk, getS_setS_ne _ _ hk]
    exact relP_mono (hQ k hk) (h.lay k)

theorem setS (h : SFP P c s s') (l : Nat) {x y : SLayer} (hx : relP (P l) c x y) :
    SFP P c (setS s l x) (setS s' l y) := h.setS' l (fun _ _ hk => hk) hx

theorem withMini (h : SFP P c s s') (m : List Nat) : SFP P c { s with mini := m } { s' with mini := m } :=
  { h with mini := rfl }

theorem withDefs (h : SFP P c s s') (d : List V) : SFP P c { s with defs := d } { s' with defs := d } :=
  { h with defs := rfl }

theorem svL_rel {p : Prop} {x y : SLayer} (h : relP p c x y) (pass l : Nat) (isA : Bool) :
    relP p c (svL c pass l isA x) (svL c pass l isA y) := by
  obtain ⟨h1, h2, h3, h4, h5, h6, h7⟩ := h
  unfold svL sBatch sCount
  cases isA
  · rw [if_neg Bool.false_ne_true, if_neg Bool.false_ne_true, ← h3, ← h4]
    exact ⟨h1, h2, rfl, rfl, h5, h6, h7⟩
  · rw [if_pos rfl, if_pos rfl, ← h1, ← h2]
    exact ⟨rfl, rfl, h3, h4, h5, h6, h7⟩

theorem save (h : SFP P c s s') (l : Nat) (isA : Bool) : SFP P c (save c s l isA) (save c s' l isA) := by
  rw [save_eq, save_eq, ← h.pass]
  exact h.setS l (svL_rel (h.lay l) _ _ _)

theorem urVals_eq (h : SFP P c s s') (l : Nat) (isA : Bool) (α : Rat) :
    urVals c (getS s l) l isA α = urVals c (getS s' l) l isA α := by
  obtain ⟨h1, h2, h3, h4, h5, h6, h7⟩ := h.lay l
  unfold urVals sBatch sCount sFac
  rw [h1, h2, h3, h4, h5, h6]

theorem urPut_rel {p : Prop} {x y : SLayer} (h : relP p c x y) (isA : Bool) (v : Option V) :
    relP p c (urPut x isA v) (urPut y isA v) := by
  obtain ⟨h1, h2, h3, h4, h5, h6, h7⟩ := h
  unfold urPut
  cases isA
  · exact ⟨h1, h2, rfl, h4, h5, rfl, h7⟩
  · exact ⟨rfl, h2, h3, h4, rfl, h6, h7⟩

theorem updateReduce (h : SFP P c s s') (l : Nat) (isA : Bool) (α : Rat) :
    SFP P c (updateReduce c s l isA α) (updateReduce c s' l isA α) := by
  rw [updateReduce_eq, updateReduce_eq, ← h.urVals_eq l isA α, ← h.defs]
  cases urVals c (getS s l) l isA α with
  | none => exact h
  | some vals => exact (h.withDefs _).setS l (urPut_rel (h.lay l) _ _)

theorem fwdBody (h : SFP P c s s') (α : Rat) (l : Nat) : SFP P c (fwdBody c α s l) (fwdBody c α s' l) := by
  unfold Spec.fwdBody
  have h1 := h.save l true
  dsimp only
  rw [← h1.mini]
  split
  · exact (h1.withMini _).updateReduce _ _ _
  · exact h1.withMini _

theorem bwdBody (h : SFP P c s s') (α : Rat) (l : Nat) : SFP P c (bwdBody c α s l) (bwdBody c α s' l) := by
  unfold Spec.bwdBody
  have h1 := h.save l false
  dsimp only
  rw [← h1.mini]
  split
  · exact h1.updateReduce _ _ _
  · exact h1

theorem passBody (h : SFP P c s s') (α : Rat) : SFP P c (passBody c α s) (passBody c α s') := by
  unfold Spec.passBody
  exact List.foldl_rel (List.foldl_rel h fun a _ _ _ ht => ht.fwdBody α a) fun a _ _ _ ht => ht.bwdBody α a

theorem fwdBwd (h : SFP P c s s') (t : Bool) : SFP P c (fwdBwd c s t) (fwdBwd c s' t) := by
  cases t
  · exact h
  · rw [fwdBwd_eq, fwdBwd_eq]
    simp only [Bool.not_true, Bool.false_eq_true, if_false]
    rw [show s'.hyper.decay.val s'.steps = s.hyper.decay.val s.steps by rw [h.steps, h.hyper],
      show (s'.steps % s'.hyper.fus.val s'.steps != 0) = (s.steps % s.hyper.fus.val s.steps != 0) by
        rw [h.steps, h.hyper]]
    split
    · rw [← h.pass]; exact { h with pass := rfl }
    · have h1 := h.passBody (s.hyper.decay.val s.steps)
      rw [← h1.pass]; exact { h1 with pass := rfl }

theorem stepA (h : SFP P c s s') (b : Bool) (α : Rat) : SFP P c (stepA c b α s) (stepA c b α s') := by
  unfold Spec.stepA
  split
  · refine List.foldl_rel h fun a _ t t' ht => ?_
    rw [← ht.mini]
    exact ((ht.withMini _).updateReduce _ _ _).updateReduce _ _ _
  · exact h

theorem rfL_rel {p : Prop} {x y : SLayer} (h : relP p c x y) (d : Rat) : relP True c (rfL c d x) (rfL c d y) := by
  -- `rfL` computes the second-order fields from the factors alone, and those agree
  obtain ⟨h1, h2, h3, h4, h5, h6, _⟩ := h
  cases hm : c.method <;> cases hp : c.prediv <;> simp [relP, soRel, rfL, *]

theorem refresh (h : SFP P c s s') (l : Nat) (d : Rat) :
    SFP (fun k => P k ∨ k = l) c (refresh c s l d) (refresh c s' l d) := by
  rw [refresh_eq, refresh_eq]
  exact h.setS' l (fun k hk hq => hq.resolve_right hk) (relP_mono (fun _ => trivial) (rfL_rel (h.lay l) d))

theorem refreshFold (d : Rat) (L : List Nat) : ∀ {P : Nat → Prop} {s s' : SSt}, SFP P c s s' →
    SFP (fun k => P k ∨ k ∈ L) c (L.foldl (fun t l => Spec.refresh c t l d) s)
      (L.foldl (fun t l => Spec.refresh c t l d) s') := by
  induction L with
  | nil => intro P s s' h; exact h.mono (fun k hk => by simpa using hk)
  | cons a t ih =>
    intro P s s' h
    simp only [List.foldl_cons]
    refine (ih (h.refresh a d)).mono (fun k hk => ?_)
    simp only [List.mem_cons] at hk
    rcases hk with hk | hk | hk
    · exact Or.inl (Or.inl hk)
    · exact Or.inl (Or.inr hk)
    · exact Or.inr hk

theorem refreshAll (h : SFP P c s s') (hlen : s.layers.length = c.nLayers) (d : Rat) {L : List Nat}
    (hL : ∀ k, k < c.nLayers → k ∈ L) :
    SFP AllL c (L.foldl (fun t l => Spec.refresh c t l d) s) (L.foldl (fun t l => Spec.refresh c t l d) s') := by
  have hl : (L.foldl (fun t l => Spec.refresh c t l d) s).layers.length = c.nLayers :=
    (fr_len (foldl_pres fr _ (fun t l => fr_refresh c t l d) _ _)).trans hlen
  refine ((refreshFold d L h).extend _ hl).mono (fun k _ => ?_)
  by_cases hk : k < c.nLayers
  · exact Or.inl (Or.inr (hL k hk))
  · exact Or.inr (by omega)

theorem stepB (h : SFP P c s s') (b : Bool) (d : Rat)
    (hP : (∀ k, P k) ∨ (b = true ∧ s.layers.length = c.nLayers)) :
    SFP AllL c (stepB c b d s) (stepB c b d s') := by
  unfold Spec.stepB
  rcases hP with hP | ⟨rfl, hlen⟩
  · split
    · exact (refreshFold d _ h).mono fun k _ => .inl (hP k)
    · exact h.mono fun k _ => hP k
  · exact h.refreshAll hlen d fun _ hk => mem_revIdxs.mpr hk

theorem precond (h : SFP P c s s') (l : Nat) (hl : P l) (d : Rat) : precond c s l d = precond c s' l d := by
  -- besides `steps`, `precond` reads exactly the fields that `soRel` equates in the configured mode
  have h7 : soRel c (getS s l) (getS s' l) := (h.lay l).2.2.2.2.2.2 hl
  unfold soRel at h7
  unfold Spec.precond
  rw [← h.steps]
  revert h7
  cases c.method
  · cases c.prediv
    · rintro ⟨e1, e2, e3, e4⟩
      simp only [e1, e2, e3, e4, Bool.false_eq_true, if_false]
    · rintro ⟨e1, e2, e3⟩
      simp only [e1, e2, (if_pos rfl).mp e3, if_true]
  · rintro ⟨e1, e2⟩
    simp only [e1, e2]

theorem stepOut (h : SFP AllL c s s') (d : Rat) (kl : Option Rat) (lr : Rat) :
    stepOut c d kl lr s = stepOut c d kl lr s' := by
  unfold Spec.stepOut
  have : (fun l => Spec.precond c s l d) = (fun l => Spec.precond c s' l d) :=
    funext fun l => h.precond l trivial d
  rw [this, ← h.steps]

/-- `hP`: states related on all layers, or a step that refreshes -/
theorem step (h : SFP P c s s')
    (hP : (∀ k, P k) ∨ (s.steps % s.hyper.ius.val s.steps = 0 ∧ s.layers.length = c.nLayers)) :
    SFP AllL c (Spec.step c s) (Spec.step c s') ∧ (Spec.step c s).out = (Spec.step c s').out := by
  rw [step_eq, step_eq, ← h.steps, ← h.hyper]
  have h2 := (h.stepA (!c.hook && s.steps % s.hyper.fus.val s.steps == 0) (s.hyper.decay.val s.steps)).stepB
    (s.steps % s.hyper.ius.val s.steps == 0) (s.hyper.damping.val s.steps)
    (hP.imp_right fun ⟨hon, hlen⟩ => ⟨beq_iff_eq.mpr hon, (fr_len (fr_stepA c _ _ s)).trans hlen⟩)
  exact ⟨{ h2 with steps := rfl, mini := rfl }, h2.stepOut (s.hyper.damping.val s.steps) (s.hyper.kl.val s.steps) (s.hyper.lr.val s.steps)⟩

theorem resetBatch (h : SFP P c s s') : SFP P c (resetBatch c s) (resetBatch c s') := by
  unfold Spec.resetBatch
  refine List.foldl_rel h fun l _ t t' ht => ?_
  obtain ⟨h1, h2, h3, h4, h5, h6, h7⟩ := ht.lay l
  exact ht.setS l ⟨rfl, rfl, rfl, rfl, h5, h6, h7⟩

/-- a checkpoint reads only what the relation fixes -/
theorem saveLoad_eq (h : SFP P c s s') (f ci : Bool) : saveLoad c s f ci = saveLoad c s' f ci := by
  have e1 : slFresh c s = slFresh c s' := by
    unfold slFresh; rw [h.steps, h.pass, h.hyper, h.defs]
  have e2 : slCopy c s = slCopy c s' := by
    unfold slCopy
    rw [e1]
    congr 1
    funext t l
    obtain ⟨_, _, _, _, h5, h6, _⟩ := h.lay l
    rw [h5, h6]
  rw [Spec.saveLoad_eq, Spec.saveLoad_eq, e1, e2]

theorem exec (h : SFP AllL c s s') (op : Op) : SFP AllL c (Spec.exec c s op) (Spec.exec c s' op) := by
  cases op with
  | fwdBwd t => exact h.fwdBwd t
  | step => exact (h.step (.inl fun _ => trivial)).1
  | resetBatch => exact h.resetBatch
  | memUsage => exact h
  | save f => exact h
  | saveLoad f ci => show SFP AllL c (saveLoad c s f ci) (saveLoad c s' f ci); rw [h.saveLoad_eq]; exact refl _ _ _
  | setHyper hy => exact { h with hyper := rfl }

theorem outs (h : SFP AllL c s s') (ops : List Op) : outsOf c s ops = outsOf c s' ops := by
  induction ops generalizing s s' with
  | nil => rfl
  | cons op t ih =>
    have e := ih (h.exec op)
    cases op <;> simp only [outsOf, e]
    exact congrArg (· :: _) (h.step (.inl fun _ => trivial)).2

end SFP

/-! ### the checkpoint round trip -/

theorem slCopy_bat (c : SCfg) (s : SSt) (l : Nat) : batOf (getS (slCopy c s) l) = batOf ({} : SLayer) := by
  unfold slCopy
  refine Eq.trans (foldl_pres (fun t => batOf (getS t l)) _ (fun _ _ => ?_) _ _) (congrArg batOf (getS_slFresh c s l))
  exact getS_setS_proj batOf _ _ _ _ rfl

theorem slCopy_fac (c : SCfg) (s : SSt) (l : Nat) (hl : l < c.nLayers) :
    facOf (getS (slCopy c s) l) = facOf (getS s l) := by
  unfold slCopy
  rw [getS_foldl_setS (fun a x => { x with aFactor := (getS s a).aFactor, gFactor := (getS s a).gFactor })
    (show (idxs c).Nodup from List.nodup_range), if_pos ⟨mem_idxs.mpr hl, by simp [slFresh, SSt.init, hl]⟩]
  rfl

theorem saveLoad_proj {γ : Type _} (p : SLayer → γ)
    (hp : ∀ (x : SLayer) a b e f g h i,
      p { x with qa := a, da := b, qg := e, dg := f, dgda := g, aInv := h, gInv := i } = p x)
    (c : SCfg) (s : SSt) (ci : Bool) (l : Nat) :
    p (getS (saveLoad c s true ci) l) = p (getS (slCopy c s) l) := by
  rw [Spec.saveLoad_eq]
  simp only [Bool.not_true, Bool.false_eq_true, if_false]
  split
  · rfl
  · exact foldl_pres (fun t => p (getS t l)) _ (fun t a => refresh_proj p hp c t a _ l) _ _

theorem Boundary.bat {c : SCfg} {s : SSt} (hb : Boundary c s) (l : Nat) : batOf (getS s l) = batOf ({} : SLayer) := by
  by_cases hl : l < s.layers.length
  · have hm : getS s l ∈ s.layers := by
      unfold getS
      rw [List.getD_eq_getElem?_getD, List.getElem?_eq_getElem hl]
      exact List.getElem_mem hl
    obtain ⟨h1, h2, h3, h4⟩ := hb.2.2 _ hm
    unfold batOf
    rw [h1, h2, h3, h4]
  · rw [getS_oob s l (by omega)]

theorem saveLoad_rel {c : SCfg} {s : SSt} (hb : Boundary c s) (ci : Bool) :
    SFP NoL c (saveLoad c s true ci) s := by
  obtain ⟨h1, h2, h3, h4, h5, h6⟩ := saveLoad_scalars c s true ci
  refine ⟨h1, h5.trans hb.1.symm, h4, h2, h3, h6.trans hb.2.1.symm, fun l => ?_⟩
  by_cases hl : l < c.nLayers
  · exact relP_false
      ((saveLoad_proj batOf (fun _ _ _ _ _ _ _ _ => rfl) c s ci l).trans ((slCopy_bat c s l).trans (hb.bat l).symm))
      ((saveLoad_proj facOf (fun _ _ _ _ _ _ _ _ => rfl) c s ci l).trans (slCopy_fac c s l hl))
  · exact relP_oob (by rw [h6]; omega) (by rw [hb.2.1]; omega)

theorem load_refresh {c : SCfg} {s : SSt} (hb : Boundary c s) :
    SFP AllL c (saveLoad c s true true) (refreshAll c s) := by
  have h0 : SFP NoL c (slCopy c s) s := saveLoad_rel hb false
  rw [Spec.saveLoad_eq]
  simp only [Bool.not_true, Bool.false_eq_true, if_false]
  unfold refreshAll
  rw [h0.steps, h0.hyper]
  exact h0.refreshAll (h0.len.trans hb.2.1) _ fun _ hk => mem_idxs.mpr hk

/-- accumulation passes and then an inverse-update step: the stale second-order data is never read -/
theorem passes_then_step (c : SCfg) (ops : List Op) (n : Nat) : ∀ (s s' : SSt), SFP NoL c s s' →
    s.layers.length = c.nLayers → s.steps % s.hyper.ius.val s.steps = 0 →
    outsOf c s (List.replicate n (.fwdBwd true) ++ .step :: ops)
      = outsOf c s' (List.replicate n (.fwdBwd true) ++ .step :: ops) := by
  induction n with
  | zero =>
    intro s s' h hlen hon
    simp only [List.replicate_zero, List.nil_append, outsOf]
    obtain ⟨h1, h2⟩ := h.step (.inr ⟨hon, hlen⟩)
    rw [show Spec.exec c s .step = Spec.step c s from rfl, show Spec.exec c s' .step = Spec.step c s' from rfl,
      h2, h1.outs]
  | succ n ih =>
    intro s s' h hlen hon
    simp only [List.replicate_succ, List.cons_append, outsOf]
    obtain ⟨f1, f2, f3⟩ := fwdBwd_frame c s true
    refine ih _ _ (h.fwdBwd true) ?_ ?_
    · exact f3.trans hlen
    · show (fwdBwd c s true).steps % (fwdBwd c s true).hyper.ius.val (fwdBwd c s true).steps = 0
      rw [f1, f2]; exact hon

end KV.C09
