/- C04: the definitions its statements rest on, and the lemmas that more than one of its theorems use. -/
import KfacVerif.Lemmas.AlgBridge
import Mathlib.Data.Real.Basic

namespace KV.C04
open Matrix

section Real
variable {r n : Type*} [Fintype r] [Fintype n] [DecidableEq n]

/-- second moment of the rows of `a` : `(1/rows) • aᵀ a` -/
noncomputable def covM (a : Matrix r n ℝ) : Matrix n n ℝ := (1 / (Fintype.card r : ℝ)) • (aᵀ * a)

/-- running the recurrence from the identity over any sequence of (decay, batch moment) pairs -/
noncomputable def iterate : List (ℝ × Matrix n n ℝ) → Matrix n n ℝ
  | [] => 1
  | (α, M) :: t => α • iterate t + (1 - α) • M       -- head = most recent update

end Real

/-- a scaled Gram matrix is symmetric, over ℝ (C04 `cov_symm`) and over ℚ (`get_cov`) -/
theorem smul_gram_symm {K r n : Type*} [CommRing K] [Fintype r] (c : K) (a : Matrix r n K) :
    (c • (aᵀ * a))ᵀ = c • (aᵀ * a) := by
  rw [transpose_smul, transpose_mul, transpose_transpose]

/-- `(c + cᵀ)/2 = c` for symmetric `c`, over ℝ (C04 `symmetrise_id`) and over ℚ (`get_cov`) -/
theorem symm_id {K n : Type*} [Field K] [CharZero K] (c : Matrix n n K) (h : cᵀ = c) :
    (1 / 2 : K) • (c + cᵀ) = c := by
  rw [h, ← two_smul K c, smul_smul, one_div, inv_mul_cancel₀ two_ne_zero, one_smul]

def toM (m k : ℕ) (A : KV.Alg.Mat) : Matrix (Fin m) (Fin k) ℚ := fun i j => KV.Alg.ent A i j

/-- C04's `toM` is C01's; the bridge lemmas `C01.toM_*` are stated for the latter -/
theorem toM_eq : @toM = @C01.toM := rfl

end KV.C04
