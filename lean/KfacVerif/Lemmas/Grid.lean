/-
C06: its hypotheses `OK`, the k×p grid (`cols` and `rows` are the fibres of `r ↦ r % p` and `r ↦ r / p`), the
queries of a constructed assignment (what `greedy` recorded, read back through the association lists:
Lemmas/Assoc.lean), and the rounding bound behind the float side of the fraction validation.  What the
placement records say comes from Lemmas/Greedy.lean.
-/
import KfacVerif.Lemmas.Greedy
import KfacVerif.Lemmas.Assoc
import KfacVerif.Lemmas.Radix
import Mathlib.Data.List.Nodup
import Mathlib.Tactic.Ring
import Mathlib.Algebra.Order.Ring.Rat
import Mathlib.Algebra.Order.Group.MinMax
import Mathlib.Algebra.Order.Ring.Abs

namespace KV.C06
open KV KV.Kaisa

/-- what the implementation guarantees about its arguments once validation passed, and what
    the harness checks of the observed set order -/
structure OK (c : Cfg) : Prop where
  wpos : 0 < c.w
  kpos : 0 < c.k
  dvd : c.k ∣ c.w
  gne : c.gOrder ≠ []
  gperm : ∀ g ∈ c.gOrder, ∃ g' ∈ cols c.w c.k, g.Perm g'
  work : C17.WorkOK c.work
  fne : ∀ l ∈ c.work, l.2 ≠ []

end KV.C06

namespace KV.Kaisa
open KV

/-! ### grid arithmetic -/

/-- rank `i + j * p` has row (high digit) `j` and column (low digit) `i` -/
theorem grid_lt {k p i j : Nat} (hi : i < p) (hj : j < k) : i + j * p < k * p :=
  Nat.add_comm .. ▸ Radix.lt hj hi

theorem grid_mod {p i j : Nat} (hi : i < p) : (i + j * p) % p = i := Nat.add_comm .. ▸ Nat.mul_add_mod_of_lt hi

theorem grid_div {p i j : Nat} (hi : i < p) : (i + j * p) / p = j := Nat.add_comm .. ▸ Radix.div hi

def col (p k i : Nat) : List Nat := (List.range k).map fun j => i + j * p

def row (p i : Nat) : List Nat := (List.range p).map fun j => i * p + j

theorem cols_eq {k : Nat} (p : Nat) (hk : 0 < k) :
    cols (k * p) k = (List.range p).map (col p k) := by
  simp [cols, col, Nat.mul_div_cancel_left p hk]

theorem rows_eq {k : Nat} (p : Nat) (hk : 0 < k) :
    rows (k * p) k = (List.range k).map (row p) := by
  simp [rows, row, Nat.mul_div_cancel_left p hk]

theorem mem_col {p k i r : Nat} : r ∈ col p k i ↔ ∃ j, j < k ∧ r = i + j * p := by
  simp [col, eq_comm]

theorem mem_row {p i r : Nat} : r ∈ row p i ↔ ∃ j, j < p ∧ r = i * p + j := by
  simp [row, eq_comm]

theorem mem_cols {k p : Nat} (hk : 0 < k) {g : List Nat} :
    g ∈ cols (k * p) k ↔ ∃ i, i < p ∧ g = col p k i := by
  simp [cols_eq p hk, eq_comm]

theorem mem_rows {k p : Nat} (hk : 0 < k) {g : List Nat} :
    g ∈ rows (k * p) k ↔ ∃ i, i < k ∧ g = row p i := by
  simp [rows_eq p hk, eq_comm]

theorem col_length (p k i : Nat) : (col p k i).length = k := by simp [col]

theorem row_length (p i : Nat) : (row p i).length = p := by simp [row]

theorem col_nodup {p k i : Nat} (hp : 0 < p) : (col p k i).Nodup := by
  unfold col
  refine (List.nodup_map_iff_inj_on List.nodup_range).2 ?_
  intro a _ b _ h
  have : a * p = b * p := by omega
  exact Nat.eq_of_mul_eq_mul_right hp this

theorem row_nodup (p i : Nat) : (row p i).Nodup := by
  unfold row
  refine (List.nodup_map_iff_inj_on List.nodup_range).2 ?_
  intro a _ b _ h
  omega

theorem col_lt {p k i r : Nat} (hi : i < p) (hr : r ∈ col p k i) : r < k * p := by
  obtain ⟨j, hj, rfl⟩ := mem_col.1 hr
  exact grid_lt hi hj

theorem row_lt {p k i r : Nat} (hi : i < k) (hr : r ∈ row p i) : r < k * p := by
  obtain ⟨j, hj, rfl⟩ := mem_row.1 hr
  exact Radix.lt hi hj

theorem mem_col_iff {p k i r : Nat} (hi : i < p) : r ∈ col p k i ↔ r < k * p ∧ r % p = i := by
  constructor
  · intro h
    refine ⟨col_lt hi h, ?_⟩
    obtain ⟨j, _, rfl⟩ := mem_col.1 h
    exact grid_mod hi
  · rintro ⟨hr, rfl⟩
    exact mem_col.2 ⟨r / p, Radix.div_lt hr, (Nat.add_comm .. ▸ Nat.div_add_mod' r p).symm⟩

theorem mem_row_iff {p k i r : Nat} (hp : 0 < p) (hi : i < k) : r ∈ row p i ↔ r < k * p ∧ r / p = i := by
  constructor
  · intro h
    refine ⟨row_lt hi h, ?_⟩
    obtain ⟨j, hj, rfl⟩ := mem_row.1 h
    exact Radix.div hj
  · rintro ⟨hr, rfl⟩
    exact mem_row.2 ⟨r % p, Nat.mod_lt _ hp, (Nat.div_add_mod' r p).symm⟩

theorem cols_length' {w k : Nat} (hk : 0 < k) (hd : k ∣ w) :
    (cols w k).length = w / k ∧ ∀ g ∈ cols w k, g.length = k ∧ g.Nodup ∧ ∀ r ∈ g, r < w := by
  obtain ⟨p, rfl⟩ := hd
  refine ⟨by simp [cols], ?_⟩
  intro g hg
  obtain ⟨i, hi, rfl⟩ := (mem_cols hk).1 hg
  exact ⟨col_length _ _ _, col_nodup (by omega), fun r hr => col_lt hi hr⟩

theorem rows_length' {w k : Nat} (hk : 0 < k) (hd : k ∣ w) :
    (rows w k).length = k ∧ ∀ g ∈ rows w k, g.length = w / k ∧ g.Nodup ∧ ∀ r ∈ g, r < w := by
  obtain ⟨p, rfl⟩ := hd
  refine ⟨by simp [rows], ?_⟩
  intro g hg
  obtain ⟨i, hi, rfl⟩ := (mem_rows hk).1 hg
  rw [Nat.mul_div_cancel_left p hk]
  exact ⟨row_length _ _, row_nodup _ _, fun r hr => row_lt hi hr⟩

theorem fibres_cover_unique {N w : Nat} {F : Nat → List Nat} {f : Nat → Nat}
    (hF : ∀ i < N, ∀ r, r ∈ F i ↔ r < w ∧ f r = i) (hf : ∀ r < w, f r < N) {r : Nat} (hr : r < w) :
    ∃ g ∈ (List.range N).map F, r ∈ g ∧ ∀ g' ∈ (List.range N).map F, r ∈ g' → g' = g := by
  refine ⟨F (f r), List.mem_map.2 ⟨_, List.mem_range.2 (hf r hr), rfl⟩, (hF _ (hf r hr) r).2 ⟨hr, rfl⟩, ?_⟩
  intro g' hg' hr'
  obtain ⟨i, hi, rfl⟩ := List.mem_map.1 hg'
  rw [((hF i (List.mem_range.1 hi) r).1 hr').2]

theorem cols_cover_unique' {w k : Nat} (hk : 0 < k) (hd : k ∣ w) {r : Nat} (hr : r < w) :
    ∃ g ∈ cols w k, r ∈ g ∧ ∀ g' ∈ cols w k, r ∈ g' → g' = g := by
  obtain ⟨p, rfl⟩ := hd
  have hp : 0 < p := Nat.pos_of_ne_zero (by rintro rfl; simp at hr)
  rw [cols_eq p hk]
  exact fibres_cover_unique (fun i hi _ => mem_col_iff hi) (fun _ _ => Nat.mod_lt _ hp) hr

theorem rows_cover_unique' {w k : Nat} (hk : 0 < k) (hd : k ∣ w) {r : Nat} (hr : r < w) :
    ∃ g ∈ rows w k, r ∈ g ∧ ∀ g' ∈ rows w k, r ∈ g' → g' = g := by
  obtain ⟨p, rfl⟩ := hd
  have hp : 0 < p := Nat.pos_of_ne_zero (by rintro rfl; simp at hr)
  rw [rows_eq p hk]
  exact fibres_cover_unique (fun i hi _ => mem_row_iff hp hi) (fun _ h => Radix.div_lt h) hr

theorem row_col_meet_once' {w k : Nat} (hk : 0 < k) (hd : k ∣ w) {R C : List Nat}
    (hR : R ∈ rows w k) (hC : C ∈ cols w k) :
    ∃ r, r ∈ R ∧ r ∈ C ∧ ∀ r', r' ∈ R → r' ∈ C → r' = r := by
  obtain ⟨p, rfl⟩ := hd
  obtain ⟨i, hi, rfl⟩ := (mem_rows hk).1 hR
  obtain ⟨j, hj, rfl⟩ := (mem_cols hk).1 hC
  have hp : 0 < p := by omega
  have hlt : j + i * p < k * p := grid_lt hj hi
  refine ⟨j + i * p, (mem_row_iff hp hi).2 ⟨hlt, grid_div hj⟩, (mem_col_iff hj).2 ⟨hlt, grid_mod hj⟩, ?_⟩
  intro r' h1 h2
  rw [← Nat.div_add_mod' r' p, ((mem_row_iff hp hi).1 h1).2, ((mem_col_iff hj).1 h2).2, Nat.add_comm]

theorem find_group {L : List (List Nat)} {r : Nat}
    (hu : ∃ g ∈ L, r ∈ g ∧ ∀ g' ∈ L, r ∈ g' → g' = g) {g : List Nat} (hg : g ∈ L) (hr : r ∈ g) :
    L.find? (fun g => g.contains r) = some g := by
  obtain ⟨g0, _, _, hu⟩ := hu
  refine find?_unique hg (List.contains_iff_mem.2 hr) fun g' hg' h => ?_
  rw [hu g' hg' (List.contains_iff_mem.1 h), hu g hg hr]

theorem find_col {w k r : Nat} (hk : 0 < k) (hd : k ∣ w) {g : List Nat} (hg : g ∈ cols w k)
    (hr : r ∈ g) : (cols w k).find? (fun g => g.contains r) = some g :=
  find_group (cols_cover_unique' hk hd (((cols_length' hk hd).2 g hg).2.2 r hr)) hg hr

theorem find_row {w k r : Nat} (hk : 0 < k) (hd : k ∣ w) {g : List Nat} (hg : g ∈ rows w k)
    (hr : r ∈ g) : (rows w k).find? (fun g => g.contains r) = some g :=
  find_group (rows_cover_unique' hk hd (((rows_length' hk hd).2 g hg).2.2 r hr)) hg hr

/-! ### queries of a constructed assignment -/

/-- the rank `greedy` records for a factor -/
def rankOf (c : Cfg) (layer factor : String) : Nat :=
  (lookupPlacement (placements c.work c.gOrder c.w c.colocate) layer factor).getD 0

theorem assign_get {c : Cfg} (hnd : (c.work.map (·.1)).Nodup)
    {l : String × List (String × Nat)} (hl : l ∈ c.work) :
    assocGet? l.1 c.assign = some (l.2.map fun y => (y.1, rankOf c l.1 y.1)) := by
  have := AL.get_map l.1
    (fun layer (fs : List (String × Nat)) => fs.map fun y => (y.1, rankOf c layer y.1)) c.work
  rw [AL.get_of_mem_nodup hnd hl] at this
  exact (assocGet?_eq ..).trans this

theorem invWorker_eq {c : Cfg} (hnd : (c.work.map (·.1)).Nodup)
    {l : String × List (String × Nat)} (hl : l ∈ c.work) {f : String × Nat} (hf : f ∈ l.2) :
    c.invWorker l.1 f.1 = some (rankOf c l.1 f.1) := by
  unfold Cfg.invWorker
  rw [assign_get hnd hl, Option.bind_some, assocGet?_eq]
  obtain ⟨v, hv⟩ := AL.get_isSome (List.mem_map_of_mem hf)
  rw [AL.get_map f.1 (fun f (_ : Nat) => rankOf c l.1 f) l.2, hv]
  rfl

theorem rankOf_spec {c : Cfg} (hnd : (c.work.map (·.1)).Nodup) {l : String × List (String × Nat)}
    (hl : l ∈ c.work) {f : String × Nat} (hf : f ∈ l.2) :
    lookupPlacement (placements c.work c.gOrder c.w c.colocate) l.1 f.1 = some (rankOf c l.1 f.1) := by
  obtain ⟨r, hr⟩ := placements_assigned c.gOrder c.w c.colocate hnd hl hf
  rw [rankOf, hr]
  rfl

theorem rankOf_colocated {c : Cfg} (hc : c.colocate = true) (hnd : (c.work.map (·.1)).Nodup)
    {l : String × List (String × Nat)} (hl : l ∈ c.work) {f f' : String × Nat} (hf : f ∈ l.2)
    (hf' : f' ∈ l.2) : rankOf c l.1 f.1 = rankOf c l.1 f'.1 := by
  obtain ⟨w, hw⟩ := placements_colocated c.gOrder c.w hnd hl
  have e := rankOf_spec hnd hl hf
  have e' := rankOf_spec hnd hl hf'
  rw [hc] at e e'
  rw [hw _ _ e, hw _ _ e']

theorem layerWorker_eq {c : Cfg} (hnd : (c.work.map (·.1)).Nodup)
    {l : String × List (String × Nat)} (hl : l ∈ c.work) (hne : l.2 ≠ []) :
    ∃ f ∈ l.2, c.layerWorker l.1 = some (rankOf c l.1 f.1) := by
  unfold Cfg.layerWorker
  rw [assign_get hnd hl, Option.bind_some]
  refine ⟨l.2.getLast hne, List.getLast_mem hne, ?_⟩
  rw [List.getLast?_map, List.getLast?_eq_some_getLast hne]
  rfl

theorem _root_.KV.C06.OK.groups_ne {c : Cfg} (h : C06.OK c) : ∀ g ∈ c.gOrder, g ≠ [] := by
  rintro g hg rfl
  obtain ⟨g', hg', hp⟩ := h.gperm [] hg
  exact absurd (hp.length_eq.trans ((cols_length' h.kpos h.dvd).2 g' hg').1) (Nat.ne_of_lt h.kpos)

theorem assign_core {c : Cfg} (h : C06.OK c) {l : String × List (String × Nat)} (hl : l ∈ c.work) :
    c.workerGroup l.1 ∈ cols c.w c.k ∧
      ∀ f ∈ l.2, ∃ r, c.invWorker l.1 f.1 = some r ∧ r ∈ c.workerGroup l.1 := by
  obtain ⟨g, hg, hconf⟩ := placements_confined c.w h.gne h.groups_ne c.colocate h.work.layers hl
  obtain ⟨C, hC, hp⟩ := h.gperm g hg
  have hrank : ∀ f ∈ l.2, rankOf c l.1 f.1 ∈ C := fun f hf =>
    hp.mem_iff.1 (hconf _ _ (rankOf_spec h.work.layers hl hf))
  obtain ⟨fl, hfl, hlw⟩ := layerWorker_eq h.work.layers hl (h.fne l hl)
  have hwg : c.workerGroup l.1 = C := by
    unfold Cfg.workerGroup
    rw [hlw]
    simp only []
    rw [find_col h.kpos h.dvd hC (hrank fl hfl)]
    rfl
  rw [hwg]
  exact ⟨hC, fun f hf => ⟨_, invWorker_eq h.work.layers hl hf, hrank f hf⟩⟩

theorem receiverGroup_eq {c : Cfg} (hk : 0 < c.k) (hd : c.k ∣ c.w) {R : List Nat} (hR : R ∈ rows c.w c.k)
    {loc : Nat} (hloc : loc ∈ R) : c.receiverGroup loc = R := by
  rw [Cfg.receiverGroup, find_row hk hd hR hloc]
  rfl

theorem receiverGroup_spec {c : Cfg} (hk : 0 < c.k) (hd : c.k ∣ c.w) {loc : Nat} (hloc : loc < c.w) :
    c.receiverGroup loc ∈ rows c.w c.k ∧ loc ∈ c.receiverGroup loc := by
  obtain ⟨R, hR, hmem, _⟩ := rows_cover_unique' hk hd hloc
  rw [receiverGroup_eq hk hd hR hmem]
  exact ⟨hR, hmem⟩

theorem src_core {c : Cfg} (hk : 0 < c.k) (hd : c.k ∣ c.w) {loc : Nat} (hloc : loc < c.w)
    {layer : String} (hC : c.workerGroup layer ∈ cols c.w c.k) :
    ∃ s, c.srcGradWorker loc layer = some s ∧ s ∈ c.workerGroup layer ∧ s ∈ c.receiverGroup loc ∧
      (∀ s', s' ∈ c.workerGroup layer → s' ∈ c.receiverGroup loc → s' = s) ∧
      (c.isGradWorker loc layer = true → s = loc) := by
  obtain ⟨hR, hlocR⟩ := receiverGroup_spec hk hd hloc
  obtain ⟨s, hsR, hsC, hu⟩ := row_col_meet_once' hk hd hR hC
  have hfind : c.srcGradWorker loc layer = some s :=
    find?_unique hsR (List.contains_iff_mem.2 hsC) fun s' h2 h1 => hu s' h2 (List.contains_iff_mem.1 h1)
  refine ⟨s, hfind, hsC, hsR, fun s' a b => hu s' b a, ?_⟩
  intro hw
  simp only [Cfg.isGradWorker, List.contains_iff_mem] at hw
  exact (hu loc hlocR hw).symm

/-! ### fraction validation -/

/-- two roundings with relative errors `≤ ε` move a product `1 ≤ k ≤ B` by at most `B (2ε + ε²)`,
    and clamping at `1 ≤ k` does not increase the distance to `k` -/
theorem two_roundings {k B ε δ₁ δ₂ : ℚ} (hk1 : 1 ≤ k) (hkB : k ≤ B) (h1 : |δ₁| ≤ ε) (h2 : |δ₂| ≤ ε) :
    |max 1 (k * (1 + δ₁) * (1 + δ₂)) - k| ≤ B * (ε + ε + ε * ε) := by
  have hε : 0 ≤ ε := (abs_nonneg _).trans h1
  have hk0 : 0 ≤ k := zero_le_one.trans hk1
  have hδ : |δ₁ + δ₂ + δ₁ * δ₂| ≤ ε + ε + ε * ε :=
    calc |δ₁ + δ₂ + δ₁ * δ₂| ≤ |δ₁| + |δ₂| + |δ₁| * |δ₂| := by
          rw [← abs_mul]
          exact (abs_add_le _ _).trans (add_le_add_left (abs_add_le _ _) _)
      _ ≤ ε + ε + ε * ε := add_le_add (add_le_add h1 h2) (mul_le_mul h1 h2 (abs_nonneg _) hε)
  calc |max 1 (k * (1 + δ₁) * (1 + δ₂)) - k|
      = |max (k * (1 + δ₁) * (1 + δ₂)) 1 - max k 1| := by rw [max_comm, max_eq_left hk1]
    _ ≤ |k * (1 + δ₁) * (1 + δ₂) - k| := abs_max_sub_max_le_abs _ _ _
    _ = |k * (δ₁ + δ₂ + δ₁ * δ₂)| := by congr 1; ring
    _ = k * |δ₁ + δ₂ + δ₁ * δ₂| := by rw [abs_mul, abs_of_nonneg hk0]
    _ ≤ B * (ε + ε + ε * ε) := mul_le_mul hkB hδ (abs_nonneg _) (hk0.trans hkB)

end KV.Kaisa
