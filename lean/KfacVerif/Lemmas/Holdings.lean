/-
What C13 needs of M-Precond beyond "every operation is a sequence of primitive moves"
(Lemmas/HoldingsReach.lean, Lemmas/HoldingsWalk.lean): the first `step()` makes every gradient worker
hold second-order data (`qa` resp. `aInv`), nothing but a checkpoint load ever drops it, and every
issue of every history comes from one of the four issuing sites.  The definitions of the C13
statements live here.  Core Lean only.
-/
import KfacVerif.Lemmas.HoldingsWalk

namespace KV.C13
open KV KV.Precond

/-- histories of the statement: construction followed by training passes, steps, eval passes,
    reset_batch, memory queries, state_dict and scheduler changes (no checkpoint load: loading
    recomputes second-order data on every rank, which is outside C13) -/
def noLoad : List Op → Prop
  | [] => True
  | .saveLoad _ _ :: _ => False
  | _ :: t => noLoad t

def hasStep : List Op → Bool
  | [] => false
  | .step :: _ => true
  | _ :: t => hasStep t

structure AsgOK (c : Cfg) : Prop where
  workers_lt : ∀ l r, r ∈ c.asg.workers l → r < c.world
  invA_mem : ∀ l, c.asg.invA l ∈ c.asg.workers l
  invG_mem : ∀ l, c.asg.invG l ∈ c.asg.workers l
  /-- without inverse broadcasts (MEM-OPT) the inverse worker is the only gradient worker -/
  nobi_single : c.asg.bcastInv = false → ∀ l, c.asg.workers l = [c.asg.invA l] ∧ c.asg.invG l = c.asg.invA l

def isFactorTraffic (c : Cfg) (m : List Nat) (d : Desc) : Prop :=
  d.kind = .allreduce ∧ m = worldRanks c ∧ d.esize = c.fe
def isInverseTraffic (c : Cfg) (m : List Nat) (d : Desc) : Prop :=
  d.kind = .broadcast ∧ d.esize = c.ie ∧ ∃ l, m = c.asg.workers l ∧ (d.root = c.asg.invA l ∨ d.root = c.asg.invG l)
def isGradTraffic (c : Cfg) (m : List Nat) (d : Desc) : Prop :=
  d.kind = .broadcast ∧ d.esize = c.ge ∧ ∃ r0 l, m = c.asg.recv r0 ∧ d.root = c.asg.src r0 l ∧
    d.elems = (c.layers.getD l ⟨0, 0⟩).gDim * (c.layers.getD l ⟨0, 0⟩).aDim

theorem noLoad_cons {op : Op} {ops : List Op} : noLoad (op :: ops) ↔ HR.isLoad op = false ∧ noLoad ops := by
  cases op <;> simp [noLoad, HR.isLoad]

theorem hasStep_cons (op : Op) (ops : List Op) : hasStep (op :: ops) = (C03.isStep op || hasStep ops) := by
  cases op <;> rfl

theorem AsgOK.invMem {c : Cfg} (hc : AsgOK c) : HR.InvMem c false :=
  fun l => ⟨.inl (hc.invA_mem l), .inl (hc.invG_mem l)⟩

end KV.C13

namespace KV.HR
open KV KV.Precond KV.Refine
open KV.Cell (Out)
open KV.C13 (AsgOK noLoad hasStep noLoad_cons hasStep_cons)
variable {c : Cfg} {r l : Nat}

theorem R.run_noLoad (hc : AsgOK c) (s : St) :
    ∀ {ops : List Op}, noLoad ops → Reach c false true s (Precond.run c s ops)
  | [], _ => .refl s
  | op :: _, h =>
    (R.exec hc.invMem s op (fun k => by simp [(noLoad_cons.mp h).1] at k) fun _ => rfl).trans
      (R.run_noLoad hc _ (noLoad_cons.mp h).2)

/-- unless the run has failed, cell (r, l) holds `qa` resp. `aInv` -/
def Est (c : Cfg) (r l : Nat) (u : St) : Prop := u.err = none → hq c (getL u r l) = true

theorem Est.mono {t u : St} (ht : Est c r l t) (h : Reach c false true t u) : Est c r l u :=
  fun he => hq_of_mono (h.kept r l).1 (ht (h.err he))

theorem Est.foldl {α : Type} (f : St → α → St) (ls : List α) (a : α) (ha : a ∈ ls) {s : St} (hS : Shape c s)
    (hR : ∀ t b, b ∈ ls → Reach c false true t (f t b)) (hest : ∀ t, Shape c t → Est c r l (f t a)) :
    Est c r l (ls.foldl f s) :=
  foldl_estab (Shape c) (Est c r l) f a ls ha s hS (fun t b hb => (hR t b hb).shape)
    (fun t b hb _ he => he.mono (hR t b hb)) hest

theorem Est.run {s : St} (hs : Shape c s) (hr : r < c.world) (hl : l < c.layers.length) {p : Out}
    (hp : p.All (hq c · = true)) : Est c r l (Cell.run s r l p) := by
  cases p with
  | fail rs w => exact fun he => absurd he (fail_err _ _ _)
  | write rs y =>
    obtain ⟨a, e⟩ := Cell.reads_eq s r (getL s r l) rs
    rw [Cell.run_write, e]
    exact fun _ => (getL_setL_same (hs.of_ranks rfl) hr hl y).symm ▸ hp

theorem Cell.computeAInv_hq (c d x) : (Cell.computeAInv c d x).All (hq c · = true) := by
  unfold Cell.computeAInv hq
  refine iteInduction (fun _ => trivial) fun _ => ?_
  cases c.method <;> rfl

/-- a worker either has `qa` (`aInv`) already or allocates it -/
theorem Cell.allocA_hq (c src r x) : (Cell.allocA c src r x).All (hq c · = true) := by
  unfold Cell.allocA hq
  cases c.method
  · cases x.qa <;> simp [Out.All_ite_eq, Out.All_fail, Out.All_write]
  · cases x.aInv <;> simp [Out.All_ite_eq, Out.All_fail, Out.All_write]

theorem est_broadcastAInv (hc : AsgOK c) {s : St} (hs : Shape c s) (hl : l < c.layers.length)
    (hr : r ∈ c.asg.workers l) (hb : c.asg.bcastInv = true) : Est c r l (broadcastAInv c s l) := by
  rw [broadcastAInv_eq]
  exact (Est.foldl _ _ r hr hs (fun t b hb => .worker t (.inl hb) (Cell.allocA_mono ..))
    fun _ ht => .run ht (hc.workers_lt l r hr) hl (Cell.allocA_hq ..)).mono (R.sendFs _ l _ _ hb (.inl rfl))

theorem est_invStep (hc : AsgOK c) (d : Rat) {s : St} (hs : Shape c s) (hl : l < c.layers.length)
    (hr : r ∈ c.asg.workers l) : Est c r l (invStep c d s l) := by
  have hm := hc.invMem
  unfold Refine.invStep
  extract_lets s1 s2 s3
  have r1 : Reach c false true s s1 := R.computeAInv s _ l d (hm l).1
  have e2 : Est c r l s2 := by
    refine iteInduction (est_broadcastAInv hc (r1.shape hs) hl hr) fun hb => ?_
    obtain rfl : r = c.asg.invA l := by simpa [(hc.nobi_single (by simpa using hb) l).1] using hr
    show Est c _ l (computeAInv c s _ l d)
    rw [computeAInv_eq]; exact .run hs (hc.workers_lt l _ hr) hl (Cell.computeAInv_hq ..)
  exact e2.mono ((R.computeGInv _ _ l d (hm l).2).trans (iteInduction (R.broadcastGInv _ l) fun _ => .refl _))

/-- the first `step()` (step count 0 runs the inverse phase whatever the interval) -/
theorem est_stepAll (hc : AsgOK c) {s : St} (hs : Shape c s) (h0 : s.steps = 0) (hl : l < c.layers.length)
    (hr : r ∈ c.asg.workers l) : Est c r l (stepAll c s) := by
  rw [stepAll_phases]
  refine Est.mono ?_ (R.gradTail _ _)
  have r2 : Reach c false false s (facFlush c (!c.hook && s.steps % s.hyper.fus.val s.steps == 0)
    (s.hyper.decay.val s.steps) s) := R.facFlush _ _ s
  rw [invFlush, if_pos (by rw [r2.steps, h0, Nat.zero_mod]; rfl)]
  exact (Est.foldl _ _ l (mem_revLayers.mpr hl) (r2.shape hs) (fun t b _ => R.invStep hc.invMem _ t b)
    fun t ht => est_invStep hc _ ht hl hr).mono (R.flushBucket _)

theorem est_run (hc : AsgOK c) (hl : l < c.layers.length) (hr : r ∈ c.asg.workers l) :
    ∀ (ops : List Op) (s : St), Shape c s → s.steps = 0 → noLoad ops → hasStep ops = true →
      Est c r l (run c s ops)
  | [], _, _, _, _, h => by cases h
  | op :: rest, s, hs, h0, hn, hst => by
    rw [noLoad_cons] at hn
    rw [hasStep_cons, Bool.or_eq_true] at hst
    show Est c r l (run c (exec c s op) rest)
    cases hso : C03.isStep op
    · have rq : Reach c false false s (exec c s op) :=
        R.exec hc.invMem s op (by simp [hn.1]) (by simp [hso])
      exact est_run hc hl hr rest _ (rq.shape hs) (rq.steps.trans h0) hn.2 (hst.resolve_left (by simp [hso]))
    · obtain rfl : op = .step := by cases op <;> first | rfl | cases hso
      refine Est.mono ?_ (R.run_noLoad hc _ hn.2)
      exact iteInduction (fun herr he => by rw [he] at herr; cases herr) fun _ => est_stepAll hc hs h0 hl hr

end KV.HR

namespace KV.C13
open KV KV.Precond

theorem issue_sites (c : Cfg) (h : Hyper) (ops : List Op) (m : List Nat) (d : Desc)
    (hm : GAct.issue m d ∈ (run c (St.init c h) ops).acts) : ∃ b, HR.IssueOK c b m d ∧ (HR.NB c → b = []) := by
  have hr : HR.Reach c true true (St.init c h) (run c (St.init c h) ops) :=
    HR.Reach.foldl _ _ (fun t op _ => HR.R.exec (fun _ => ⟨.inr rfl, .inr rfl⟩) t op (fun _ => rfl) fun _ => rfl) _
  exact (hr.inv _ (fun _ _ p => p.binv) ⟨fun _ => rfl, nofun⟩).2 m d (List.mem_reverse.mp hm)

theorem traffic (c : Cfg) (h : Hyper) (ops : List Op) (m : List Nat) (d : Desc)
    (hm : GAct.issue m d ∈ (run c (St.init c h) ops).acts) :
    isFactorTraffic c m d ∨ (c.asg.bcastInv = true ∧ isInverseTraffic c m d) ∨
      (c.asg.bcastGrad = true ∧ isGradTraffic c m d) := by
  obtain ⟨b, hi, _⟩ := issue_sites c h ops m d hm
  cases hi with
  | flush _ => exact .inl ⟨rfl, rfl, rfl⟩
  | red l isA _ _ _ => exact .inl ⟨rfl, rfl, rfl⟩
  | inv l src elems hb _ hsrc => exact .inr (.inl ⟨hb, rfl, rfl, l, rfl, hsrc⟩)
  | grad r0 l hb _ _ => exact .inr (.inr ⟨hb, rfl, rfl, r0, l, rfl, rfl, rfl⟩)

theorem classified (c : Cfg) (h : Hyper) (ops : List Op) (m : List Nat) (d : Desc)
    (hm : GAct.issue m d ∈ (run c (St.init c h) ops).acts) :
    isFactorTraffic c m d ∨ isInverseTraffic c m d ∨ isGradTraffic c m d :=
  (traffic c h ops m d hm).imp_right (.imp And.right And.right)

end KV.C13
