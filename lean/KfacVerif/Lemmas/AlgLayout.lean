/-
KV.Alg: the index arithmetic of M-Layout (feature and patch-row indices are `Radix` digits), `sumTo`,
entries of `ofFn`, shapes.  Shared by C15, C10 and, through `sumTo` and `ent_ofFn`, by C01, C04, C07.
-/
import KfacVerif.Model.Alg
import KfacVerif.Lemmas.Radix
import KfacVerif.Lemmas.BasicL
import Mathlib.Data.List.GetD
import Mathlib.Algebra.Order.Field.Rat
import Mathlib.Tactic.Ring

namespace KV.Alg

/-- digits `(c, i * kw + j)` in base `kh * kw` -/
theorem featIdx_eq (cv : Conv) (c i j : Nat) :
    featIdx cv c i j = c * (cv.kh * cv.kw) + (i * cv.kw + j) := Nat.add_assoc ..

/-- digits `(c * kh + i, j)` in base `kw` -/
theorem featIdx_eq' (cv : Conv) (c i j : Nat) : featIdx cv c i j = (c * cv.kh + i) * cv.kw + j := by
  rw [featIdx, Nat.add_mul, Nat.mul_assoc]

theorem featC_featIdx (cv : Conv) {c i j : Nat} (hi : i < cv.kh) (hj : j < cv.kw) :
    featC cv (featIdx cv c i j) = c := by
  rw [featIdx_eq, featC, Radix.div (Radix.lt hi hj)]

theorem featI_featIdx (cv : Conv) {c i j : Nat} (hi : i < cv.kh) (hj : j < cv.kw) :
    featI cv (featIdx cv c i j) = i := by
  rw [featIdx_eq, featI, Nat.mul_add_mod_of_lt (Radix.lt hi hj), Radix.div hj]

theorem featJ_featIdx (cv : Conv) {c i j : Nat} (hj : j < cv.kw) :
    featJ cv (featIdx cv c i j) = j := by
  rw [featIdx_eq', featJ, Nat.mul_add_mod_of_lt hj]

theorem featIdx_decode (cv : Conv) (f : Nat) :
    featIdx cv (featC cv f) (featI cv f) (featJ cv f) = f := by
  have h : f % (cv.kh * cv.kw) % cv.kw = f % cv.kw := Nat.mod_mod_of_dvd f (Dvd.intro_left cv.kh rfl)
  rw [featIdx_eq, featC, featI, featJ, ← h, Nat.div_add_mod', Nat.div_add_mod']

theorem featI_lt (cv : Conv) (hkh : 0 < cv.kh) (hkw : 0 < cv.kw) (f : Nat) : featI cv f < cv.kh :=
  Radix.div_lt (Nat.mod_lt _ (Nat.mul_pos hkh hkw))

theorem featIdx_lt (cv : Conv) {c i j : Nat} (hc : c < cv.cin) (hi : i < cv.kh) (hj : j < cv.kw) :
    featIdx cv c i j < cv.cin * cv.kh * cv.kw := by
  rw [featIdx_eq, Nat.mul_assoc]
  exact Radix.lt hc (Radix.lt hi hj)

theorem flatMap_range_length {α} (A B : Nat) (h : Nat → List α) (hl : ∀ a < A, (h a).length = B) :
    ((List.range A).flatMap h).length = A * B := by
  rw [List.flatMap_def, length_flatten_const _ B (List.forall_mem_map.2 fun a ha => hl a (List.mem_range.1 ha)),
    List.length_map, List.length_range]

theorem flatMap_range_map_length {α} (A B : Nat) (g : Nat → Nat → α) :
    ((List.range A).flatMap fun a => (List.range B).map (g a)).length = A * B :=
  flatMap_range_length A B _ fun _ _ => by rw [List.length_map, List.length_range]

theorem flatMap_range_getD {α} (A B : Nat) (h : Nat → List α) (hl : ∀ a < A, (h a).length = B)
    {a b : Nat} (ha : a < A) (hb : b < B) (d : α) :
    ((List.range A).flatMap h).getD (a * B + b) d = (h a).getD b d := by
  have hc := chunk_flatten ((List.range A).map h) B
    (List.forall_mem_map.2 fun a ha => hl a (List.mem_range.1 ha)) a (by rwa [List.length_map, List.length_range])
  rw [List.getElem_map, List.getElem_range] at hc
  rw [← hc, List.flatMap_def, List.getD_eq_getElem?_getD, List.getD_eq_getElem?_getD,
    List.getElem?_take_of_lt hb, List.getElem?_drop]

theorem mem_flatMap_range_map {α} {A B : Nat} {g : Nat → Nat → α} {r : α}
    (hr : r ∈ (List.range A).flatMap fun a => (List.range B).map (g a)) :
    ∃ a b, r = g a b := by
  simp only [List.mem_flatMap, List.mem_map, List.mem_range] at hr
  obtain ⟨a, _, b, _, rfl⟩ := hr
  exact ⟨a, b, rfl⟩

theorem sumTo_succ' (n : Nat) (f : Nat → Rat) : sumTo (n + 1) f = sumTo n f + f n := by
  simp [sumTo, List.range_succ]

theorem sumTo_zero' (f : Nat → Rat) : sumTo 0 f = 0 := by simp [sumTo]

theorem sumTo_congr' {n : Nat} {f g : Nat → Rat} (h : ∀ k < n, f k = g k) : sumTo n f = sumTo n g := by
  induction n with
  | zero => simp [sumTo_zero']
  | succ n ih => rw [sumTo_succ', sumTo_succ', ih (fun k hk => h k (by omega)), h n (by omega)]

theorem sumTo_add' (m n : Nat) (f : Nat → Rat) :
    sumTo (m + n) f = sumTo m f + sumTo n (fun k => f (m + k)) := by
  induction n with
  | zero => simp [sumTo_zero']
  | succ n ih => rw [← Nat.add_assoc, sumTo_succ', sumTo_succ', ih]; ring

theorem sumTo_mul' (A B : Nat) (f : Nat → Rat) :
    sumTo (A * B) f = sumTo A fun a => sumTo B fun b => f (a * B + b) := by
  induction A with
  | zero => simp [sumTo_zero']
  | succ A ih => rw [Nat.succ_mul, sumTo_add', sumTo_succ', ih]

theorem sumTo_add_distrib (n : Nat) (u v : Nat → Rat) :
    sumTo n (fun i => u i + v i) = sumTo n u + sumTo n v := by
  induction n with
  | zero => simp [sumTo_zero']
  | succ n ih => rw [sumTo_succ', sumTo_succ', sumTo_succ', ih]; ring

theorem ent_ofFn {m n : Nat} (f : Nat → Nat → Rat) {i j : Nat} (hi : i < m) (hj : j < n) :
    ent (ofFn m n f) i j = f i j := by
  simp [ent, ofFn, List.getD_eq_getElem?_getD, hi, hj]

theorem patches_length (cv : Conv) (H W : Nat) (x : List (List (List (List Rat)))) :
    (patches cv H W x).length = x.length * outDim H cv.kh cv.sh cv.ph * outDim W cv.kw cv.sw cv.pw := by
  unfold patches
  rw [flatMap_range_length _ _ _ fun b _ => flatMap_range_map_length .., Nat.mul_assoc]

theorem patches_row_length (cv : Conv) (H W : Nat) (x : List (List (List (List Rat)))) :
    ∀ r ∈ patches cv H W x, r.length = cv.cin * cv.kh * cv.kw := by
  intro r hr
  unfold patches at hr
  simp only [List.mem_flatMap, List.mem_map, List.mem_range] at hr
  obtain ⟨b, _, y, _, z, _, rfl⟩ := hr
  simp

theorem patches_getD (cv : Conv) (H W : Nat) (x : List (List (List (List Rat)))) {b y z : Nat}
    (hb : b < x.length) (hy : y < outDim H cv.kh cv.sh cv.ph) (hz : z < outDim W cv.kw cv.sw cv.pw) :
    (patches cv H W x).getD
        ((b * outDim H cv.kh cv.sh cv.ph + y) * outDim W cv.kw cv.sw cv.pw + z) [] =
      (List.range (cv.cin * cv.kh * cv.kw)).map fun f =>
        padded x cv b (featC cv f) (y * cv.sh + featI cv f) (z * cv.sw + featJ cv f) := by
  unfold patches
  have e : (b * outDim H cv.kh cv.sh cv.ph + y) * outDim W cv.kw cv.sw cv.pw + z =
      b * (outDim H cv.kh cv.sh cv.ph * outDim W cv.kw cv.sw cv.pw) +
        (y * outDim W cv.kw cv.sw cv.pw + z) := by ring
  rw [e, flatMap_range_getD _ (outDim H cv.kh cv.sh cv.ph * outDim W cv.kw cv.sw cv.pw) _ _ hb
    (Radix.lt hy hz)]
  · rw [flatMap_range_getD _ (outDim W cv.kw cv.sw cv.pw) _ _ hy hz]
    · simp [List.getD_eq_getElem?_getD, hz]
    · intro _ _; simp
  · exact fun b _ => flatMap_range_map_length ..

theorem patches_ent (cv : Conv) (H W : Nat) (x : List (List (List (List Rat)))) {b y z c i j : Nat}
    (hb : b < x.length) (hy : y < outDim H cv.kh cv.sh cv.ph) (hz : z < outDim W cv.kw cv.sw cv.pw)
    (hc : c < cv.cin) (hi : i < cv.kh) (hj : j < cv.kw) :
    ent (patches cv H W x)
        ((b * outDim H cv.kh cv.sh cv.ph + y) * outDim W cv.kw cv.sw cv.pw + z) (featIdx cv c i j)
      = padded x cv b c (y * cv.sh + i) (z * cv.sw + j) := by
  rw [ent, patches_getD cv H W x hb hy hz]
  have hf := featIdx_lt cv hc hi hj
  simp [List.getD_eq_getElem?_getD, hf, featC_featIdx cv hi hj, featI_featIdx cv hi hj,
    featJ_featIdx cv hj]

theorem row_decode {oh ow b y z : Nat} (hy : y < oh) (hz : z < ow) :
    ((b * oh + y) * ow + z) / (oh * ow) = b ∧ (((b * oh + y) * ow + z) / ow) % oh = y ∧
      ((b * oh + y) * ow + z) % ow = z :=
  Radix.decode3 b hy hz

theorem ofFn_length (m n : Nat) (f : Nat → Nat → Rat) : (ofFn m n f).length = m := by simp [ofFn]

theorem ofFn_row_length (m n : Nat) (f : Nat → Nat → Rat) : ∀ r ∈ ofFn m n f, r.length = n := by
  intro r hr
  simp only [ofFn, List.mem_map] at hr
  obtain ⟨_, _, rfl⟩ := hr
  simp

theorem cov_length (rows n : Nat) (a : Mat) : (cov rows n a).length = n := by
  simp [cov, smul, ofFn_length]

theorem cov_row_length (rows n : Nat) (a : Mat) : ∀ r ∈ cov rows n a, r.length = n := by
  simp only [cov, smul]; exact ofFn_row_length _ _ _

theorem getGrad_some_getD (w : Mat) (b : List Rat) (hb : b.length = w.length) {o : Nat} (ho : o < w.length) :
    (getGrad w (some b)).getD o [] = w.getD o [] ++ [b.getD o 0] := by
  have ho' : o < b.length := by omega
  simp [getGrad, List.getD_eq_getElem?_getD, ho, ho']

theorem appendOnes_getD (a : Mat) {i : Nat} (hi : i < a.length) :
    (appendOnes a).getD i [] = a.getD i [] ++ [1] := by
  simp [appendOnes, List.getD_eq_getElem?_getD, hi]

/-- `clamp(min=0)` is `max · 0`, also beyond the end of the list (`max 0 0 = 0`) -/
theorem clamp0_getD (d : List Rat) (i : Nat) : (clamp0 d).getD i 0 = max (d.getD i 0) 0 := by
  rw [clamp0, List.getD_eq_getElem?_getD, List.getD_eq_getElem?_getD, List.getElem?_map]
  cases d[i]? with
  | none => exact (max_self 0).symm
  | some x =>
    show (if x < 0 then 0 else x) = max x 0
    split
    · next h => exact (max_eq_right h.le).symm
    · next h => exact (max_eq_left (not_lt.1 h)).symm

theorem clamp0_getD_nonneg (d : List Rat) (i : Nat) : 0 ≤ (clamp0 d).getD i 0 :=
  clamp0_getD d i ▸ le_max_right _ _

end KV.Alg
