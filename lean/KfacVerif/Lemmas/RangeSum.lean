/-
Sums of a function over `List.range n`: the termination measures of M-Sched (`KV.C03.size`) and
M-SchedVal (`KV.SchedV.size`) count the remaining actions of ranks `0 .. n-1`, and a step shortens the
program of exactly one of them.  Core Lean only.
-/

namespace KV.Sched2

theorem sum_map_range_congr (f g : Nat → Nat) (n : Nat) (h : ∀ q, q < n → g q = f q) :
    ((List.range n).map g).sum = ((List.range n).map f).sum := by
  congr 1
  apply List.map_congr_left
  intro q hq
  exact h q (List.mem_range.mp hq)

theorem sum_map_range_update (f g : Nat → Nat) (n r : Nat) (hr : r < n)
    (hne : ∀ q, q ≠ r → g q = f q) (hr1 : g r + 1 = f r) :
    ((List.range n).map g).sum + 1 = ((List.range n).map f).sum := by
  induction n with
  | zero => exact absurd hr (Nat.not_lt_zero r)
  | succ n ih =>
    simp only [List.range_succ, List.map_append, List.sum_append, List.map_cons, List.map_nil,
      List.sum_cons, List.sum_nil, Nat.add_zero]
    rcases Nat.lt_succ_iff_lt_or_eq.1 hr with h | rfl
    · rw [hne n (Nat.ne_of_gt h), Nat.add_right_comm, ih h]
    · rw [sum_map_range_congr f g r fun q hq => hne q (Nat.ne_of_lt hq), Nat.add_assoc, hr1]

end KV.Sched2
