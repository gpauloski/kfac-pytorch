/-
Generic lemmas about M-Sched (KV.Sched2): invariant preservation and progress; the per-rank programs of a
well-formed global script satisfy the invariant.  Core Lean only.
-/
import KfacVerif.Model.Sched
import KfacVerif.Lemmas.BasicL

namespace KV.Sched2

theorem idsOf_sorted (S : Events) (r : Nat) : (idsOf S r).Pairwise (· < ·) := by
  unfold idsOf
  exact List.Pairwise.filter _ (List.pairwise_lt_range)

theorem mem_idsOf {S : Events} {r i : Nat} (h : r ∈ S.getD i []) (hi : i < S.length) :
    i ∈ idsOf S r := by
  unfold idsOf
  simp only [List.mem_filter, List.mem_range, hi, true_and, decide_eq_true_eq]
  exact h

theorem lt_len_of_mem {S : Events} {r i : Nat} (h : r ∈ S.getD i []) : i < S.length := by
  by_cases hi : i < S.length
  · exact hi
  · simp [List.getD, List.getElem?_eq_none (Nat.le_of_not_lt hi)] at h

theorem issueIds_cons (a : Act) (t : List Act) : issueIds (a :: t) = issueIds [a] ++ issueIds t := by
  cases a <;> rfl

theorem waitsOK_tail {done : List Nat} {a : Act} {t : List Act} (h : waitsOK done (a :: t)) :
    waitsOK (done ++ issueIds [a]) t := by
  cases a with
  | issue i => exact h
  | wait i => rw [issueIds, issueIds, List.append_nil]; exact h.2

theorem Step.inv {S s s'} (hs : Step S s s') : ∃ r a t, s.rem r = a :: t ∧
    s' = { rem := fun q => if q = r then t else s.rem q,
           iss := fun q => if q = r then s.iss r ++ issueIds [a] else s.iss q } := by
  cases hs with
  | issue r i t h => exact ⟨r, _, t, h, rfl⟩
  | wait r i t h hc =>
    refine ⟨r, _, t, h, congrArg (St.mk _) (funext fun q => ?_)⟩
    by_cases hq : q = r
    · rw [if_pos hq, hq]; exact (List.append_nil _).symm
    · rw [if_neg hq]

theorem SInv.step {S n s s'} (hI : SInv S n s) (hs : Step S s s') : SInv S n s' := by
  obtain ⟨r, a, t, h, rfl⟩ := hs.inv
  refine ⟨fun q hq => ?_, fun q hq => ?_, hI.members, fun q hq => ?_⟩
  · by_cases hqr : q = r
    · subst hqr
      simp only [↓reduceIte]
      rw [List.append_assoc, ← issueIds_cons, ← h]
      exact hI.split q hq
    · simp only [hqr, ↓reduceIte]
      exact hI.split q hq
  · by_cases hqr : q = r
    · subst hqr
      simp only [↓reduceIte]
      exact waitsOK_tail (h ▸ hI.waits q hq)
    · simp only [hqr, ↓reduceIte]
      exact hI.waits q hq
  · by_cases hqr : q = r
    · subst hqr
      exact absurd (hI.idle q hq) (h ▸ List.cons_ne_nil a t)
    · simp only [hqr, ↓reduceIte]
      exact hI.idle q hq

theorem SInv.iss_of_done {S n s r} (hI : SInv S n s) (hr : r < n) (h : s.rem r = []) :
    s.iss r = idsOf S r := by
  have := hI.split r hr
  rwa [h, issueIds, List.append_nil] at this

theorem progress {S n s} (hI : SInv S n s) (hne : ∃ r, s.rem r ≠ []) : ∃ s', Step S s s' := by
  by_cases hiss : ∃ r i t, s.rem r = .issue i :: t
  · obtain ⟨r, i, t, h⟩ := hiss; exact ⟨_, Step.issue s r i t h⟩
  have hw : ∀ r, s.rem r ≠ [] → ∃ i t, s.rem r = .wait i :: t := by
    intro r hr
    match hrem : s.rem r with
    | [] => exact absurd hrem hr
    | .issue i :: t => exact absurd ⟨r, i, t, hrem⟩ hiss
    | .wait i :: t => exact ⟨i, t, rfl⟩
  -- a wait for `i` that cannot fire has a member that has not issued `i`: that rank waits for some `j < i`
  have key : ∀ b, (∃ r i t, s.rem r = .wait i :: t ∧ i ≤ b) → ∃ s', Step S s s' := by
    intro b
    induction b using Nat.strongRecOn with
    | _ b ih =>
      rintro ⟨r, i, t, h, hib⟩
      by_cases hc : complete S s i
      · exact ⟨_, Step.wait s r i t h hc⟩
      · unfold complete at hc
        obtain ⟨r', hr'⟩ := Classical.not_forall.mp hc
        obtain ⟨hmem, hnot⟩ := Classical.not_imp.mp hr'
        have hr'n : r' < n := hI.members i r' hmem
        have hi_ids : i ∈ idsOf S r' := mem_idsOf hmem (lt_len_of_mem hmem)
        rw [← hI.split r' hr'n] at hi_ids
        have hin : i ∈ issueIds (s.rem r') := by
          rcases List.mem_append.mp hi_ids with h1 | h2
          · exact absurd h1 hnot
          · exact h2
        have hne' : s.rem r' ≠ [] := by intro h0; simp [h0, issueIds] at hin
        obtain ⟨j, t', hj⟩ := hw r' hne'
        have hjiss : j ∈ s.iss r' := by
          have := hI.waits r' hr'n; rw [hj] at this; exact this.1
        have hsorted := idsOf_sorted S r'
        rw [← hI.split r' hr'n] at hsorted
        have hjlt : j < i := (List.pairwise_append.mp hsorted).2.2 j hjiss i hin
        exact ih j (Nat.lt_of_lt_of_le hjlt hib) ⟨r', j, t', hj, Nat.le_refl j⟩
  obtain ⟨r, hr⟩ := hne
  obtain ⟨i, t, h⟩ := hw r hr
  exact key i ⟨r, i, t, h, Nat.le_refl i⟩

section C03
open KV.Precond

theorem idsOf_concat (E : Events) (m : List Nat) (r : Nat) :
    idsOf (E ++ [m]) r = idsOf E r ++ if r ∈ m then [E.length] else [] := by
  unfold idsOf
  rw [List.length_append, List.length_singleton, List.range_succ, List.filter_append, List.filter_cons,
    getD_append_len, List.filter_nil]
  congr 1
  · exact List.filter_congr fun i hi => by rw [getD_append_lt _ _ _ _ (List.mem_range.1 hi)]
  · by_cases hm : r ∈ m
    · rw [if_pos (decide_eq_true hm), if_pos hm]
    · rw [if_neg fun h => hm (of_decide_eq_true h), if_neg hm]

/-- rank `r` in the middle of the script: with the events `seen` behind it, it has issued its own among them,
    and its remaining program issues its own among the others and waits only for what it has issued -/
theorem projectAux_inv (n b r : Nat) (acts : List GAct) (seen : Events) :
    idsOf seen r ++ issueIds (toActs b (projectAux r seen.length acts)) = idsOf (seen ++ eventsOf acts) r ∧
    (wfAux n seen acts = true → waitsOK (idsOf seen r) (toActs b (projectAux r seen.length acts))) := by
  induction acts generalizing seen with
  | nil => exact ⟨by rw [eventsOf, List.append_nil]; exact List.append_nil _, fun _ => trivial⟩
  | cons a t ih =>
    cases a with
    | issue m d =>
      have ih' := ih (seen ++ [m])
      rw [List.length_append, List.length_singleton, idsOf_concat, List.append_assoc seen] at ih'
      rw [projectAux, eventsOf, wfAux]
      by_cases hm : r ∈ m
      · rw [if_pos hm] at ih'
        rw [if_pos (List.contains_iff_mem.2 hm)]
        exact ⟨(List.append_assoc ..).symm.trans ih'.1, fun h => ih'.2 (Bool.and_eq_true_iff.1 h).2⟩
      · rw [if_neg hm, List.append_nil] at ih'
        rw [if_neg fun h => hm (List.contains_iff_mem.1 h)]
        exact ⟨ih'.1, fun h => ih'.2 (Bool.and_eq_true_iff.1 h).2⟩
    | wait q id =>
      rw [projectAux, wfAux, show eventsOf (.wait q id :: t) = eventsOf t from rfl]
      by_cases hq : q = r
      · subst hq
        rw [if_pos (beq_self_eq_true q)]
        refine ⟨(ih seen).1, fun h => ?_⟩
        simp only [Bool.and_eq_true, decide_eq_true_eq, List.contains_iff_mem] at h
        exact ⟨mem_idsOf h.1.2 h.1.1, (ih seen).2 h.2⟩
      · rw [if_neg (by simpa using hq)]
        exact ⟨(ih seen).1, fun h => (ih seen).2 (Bool.and_eq_true_iff.1 h).2⟩
    | stall q req =>
      rw [projectAux, wfAux, show eventsOf (.stall q req :: t) = eventsOf t from rfl]
      refine ⟨?_, fun h => nomatch h⟩
      by_cases hq : q = r
      · rw [if_pos (by simpa using hq)]; exact (ih seen).1
      · rw [if_neg (by simpa using hq)]; exact (ih seen).1

theorem issueIds_progOf (acts : List GAct) (r : Nat) :
    issueIds (progOf acts r) = idsOf (eventsOf acts) r :=
  (projectAux_inv 0 (eventsOf acts).length r acts []).1

theorem wfAux_issue_facts (n : Nat) (acts : List GAct) (seen : List (List Nat))
    (h : wfAux n seen acts = true) (m : List Nat) (d : Desc) (hm : GAct.issue m d ∈ acts) :
    (∀ r ∈ m, r < n) ∧ 2 ≤ m.length ∧ (d.kind = .broadcast → d.root ∈ m) := by
  induction acts generalizing seen with
  | nil => cases hm
  | cons a t ih =>
    rcases List.mem_cons.1 hm with rfl | hm'
    · simp only [wfAux, Bool.and_eq_true, List.all_eq_true, decide_eq_true_eq] at h
      exact ⟨h.1.1.1, h.1.1.2, fun hk => by simpa [hk] using h.1.2⟩
    · cases a with
      | issue m' d' => exact ih _ (Bool.and_eq_true_iff.1 h).2 hm'
      | wait q id => exact ih _ (Bool.and_eq_true_iff.1 h).2 hm'
      | stall q req => cases h

theorem eventsOf_append (a b : List GAct) : eventsOf (a ++ b) = eventsOf a ++ eventsOf b := by
  induction a with
  | nil => rfl
  | cons x t ih => cases x <;> simp [eventsOf, ih]

theorem mem_eventsOf {acts : List GAct} {m : List Nat} (h : m ∈ eventsOf acts) :
    ∃ d, GAct.issue m d ∈ acts := by
  induction acts with
  | nil => cases h
  | cons a t ih =>
    cases a with
    | issue m' d =>
      rcases List.mem_cons.1 h with rfl | h
      · exact ⟨d, List.mem_cons_self⟩
      · exact (ih h).imp fun _ => List.mem_cons_of_mem _
    | wait q id => exact (ih h).imp fun _ => List.mem_cons_of_mem _
    | stall q req => exact (ih h).imp fun _ => List.mem_cons_of_mem _

theorem wfAux_members (n : Nat) (acts : List GAct) (seen : List (List Nat))
    (h : wfAux n seen acts = true) : ∀ m ∈ eventsOf acts, ∀ r ∈ m, r < n := fun m hm =>
  let ⟨d, hd⟩ := mem_eventsOf hm
  (wfAux_issue_facts n acts seen h m d hd).1

end C03

end KV.Sched2
