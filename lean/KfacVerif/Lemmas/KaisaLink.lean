/-
Link between C06 (KAISA assignment well-formed) and the hypotheses of the state-machine theorems
(C02 C03 C05 C13): the `Assign` induced by a well-formed KAISA configuration satisfies them.
-/
import KfacVerif.Model.KaisaAssign
import KfacVerif.Props.C06
import KfacVerif.Props.C13
import KfacVerif.Props.C03
import KfacVerif.Lemmas.Refine

namespace KV.KaisaLink
open KV KV.Kaisa KV.KaisaAssign

/-- the configuration `KFACPreconditioner.__init__` builds from a KAISA assignment -/
def mkCfg (kc : Kaisa.Cfg) (p : Precond.Cfg) : Precond.Cfg := { p with world := kc.w, asg := toAssign kc }

/-- the reference machine sees only the world size, the number of layers, the method, pre-division,
    accumulation and hook mode of a KAISA-built configuration -/
theorem ofCfg_mkCfg_eq {kc₁ kc₂ : Kaisa.Cfg} {p₁ p₂ : Precond.Cfg} (hw : kc₁.w = kc₂.w)
    (hn : p₁.layers.length = p₂.layers.length) (hm : p₁.method = p₂.method)
    (hp : p₁.prediv = p₂.prediv) (ha : p₁.accum = p₂.accum) (hk : p₁.hook = p₂.hook) :
    Spec.ofCfg (mkCfg kc₁ p₁) = Spec.ofCfg (mkCfg kc₂ p₂) := by
  simp [Spec.ofCfg, mkCfg, hw, hn, hm, hp, ha, hk]

/-- MEM-OPT (`k = 1`): every column is a singleton -/
theorem col_single {w : Nat} {g : List Nat} {r : Nat} (hg : g ∈ cols w 1) (hr : r ∈ g) : g = [r] := by
  simp only [cols, List.mem_map, List.mem_range] at hg
  obtain ⟨i, _, rfl⟩ := hg
  simp at hr
  subst hr
  simp

/-- COMM-OPT (`k = w`): the only column is the whole world -/
theorem col_all {w : Nat} {g : List Nat} {r : Nat} (hw : 0 < w) (hg : g ∈ cols w w) (hr : r < w) :
    r ∈ g := by
  simp only [cols, Nat.div_self hw, List.mem_map, List.mem_range] at hg
  obtain ⟨i, hi, rfl⟩ := hg
  simp only [List.mem_map, List.mem_range]
  exact ⟨r, hr, by omega⟩

theorem layerName_mem (kc : Kaisa.Cfg) (hne : kc.work ≠ []) (l : Nat) :
    ∃ x ∈ kc.work, layerName kc l = x.1 := by
  unfold layerName
  refine ⟨_, ?_, rfl⟩
  rw [List.getD_eq_getElem?_getD]
  by_cases hl : l < kc.work.length
  · rw [List.getElem?_eq_getElem hl, Option.getD_some]
    exact List.getElem_mem hl
  · rw [List.getElem?_eq_none (by omega), Option.getD_none]
    cases hw : kc.work with
    | nil => exact absurd hw hne
    | cons a t => simp

/-- what C06/C17 give for the layer with registration index `l` (with its two factors "A" and "G"),
    in the terms of `toAssign`; the fields of the three structures below are read off from it -/
structure LayerFacts (kc : Kaisa.Cfg) (l : Nat) : Prop where
  col : (toAssign kc).workers l ∈ cols kc.w kc.k
  a : (toAssign kc).invA l ∈ (toAssign kc).workers l
  g : (toAssign kc).invG l ∈ (toAssign kc).workers l
  coloc : kc.colocate = true → (toAssign kc).invA l = (toAssign kc).invG l
  src : ∀ r, r < kc.w →
    (toAssign kc).src r l ∈ (toAssign kc).workers l ∧ (toAssign kc).src r l ∈ (toAssign kc).recv r

theorem getD_of_some {o : Option Nat} {P : Nat → Prop} (h : ∃ r, o = some r ∧ P r) : P (o.getD 0) := by
  obtain ⟨r, rfl, hr⟩ := h
  exact hr

section
variable {kc : Kaisa.Cfg} (h : C06.OK kc)
include h

theorem recv_lt (r r' : Nat) (hr : r' ∈ (toAssign kc).recv r) : r' < kc.w := by
  have hr : r' ∈ ((rows kc.w kc.k).find? (fun g => g.contains r)).getD [] := hr
  cases hf : (rows kc.w kc.k).find? (fun g => g.contains r) with
  | none => rw [hf] at hr; simp at hr
  | some g =>
    rw [hf] at hr
    exact ((C06.rows_length h.kpos h.dvd).2 g (List.mem_of_find?_eq_some hf)).2.2 r' hr

/-- the representative of a row is its head: every member's receiver group is that row -/
theorem rows_rep (r : Nat) (hr : r < kc.w) :
    ∃ r0, r0 < kc.w ∧ ((toAssign kc).recv r0).head? = some r0 ∧ r ∈ (toAssign kc).recv r0 := by
  obtain ⟨hR, hrR⟩ := C06.receiverGroup_is_row h hr
  cases hg : kc.receiverGroup r with
  | nil => rw [hg] at hrR; cases hrR
  | cons r0 t =>
    have hr0 : r0 ∈ kc.receiverGroup r := hg ▸ List.mem_cons_self ..
    have e : (toAssign kc).recv r0 = kc.receiverGroup r := receiverGroup_eq h.kpos h.dvd hR hr0
    exact ⟨r0, recv_lt h r r0 hr0, by rw [e, hg]; rfl, e ▸ hrR⟩

variable (h2 : TwoFactors kc) (hne : kc.work ≠ [])
include h2 hne

theorem facts (l : Nat) : LayerFacts kc l := by
  obtain ⟨x, hx, e⟩ := layerName_mem kc hne l
  obtain ⟨fa, hfa, hfa1⟩ := List.mem_map.1 (show "A" ∈ x.2.map (·.1) by rw [h2 x hx]; simp)
  obtain ⟨fg, hfg, hfg1⟩ := List.mem_map.1 (show "G" ∈ x.2.map (·.1) by rw [h2 x hx]; simp)
  have ha := C06.inv_worker_in_worker_group h hx hfa
  have hg := C06.inv_worker_in_worker_group h hx hfg
  rw [hfa1] at ha
  rw [hfg1] at hg
  refine ⟨?_, ?_, ?_, fun hc => ?_, fun r hr => ?_⟩
  · show kc.workerGroup (layerName kc l) ∈ _
    rw [e]; exact C06.workerGroup_is_col h hx
  · show (kc.invWorker (layerName kc l) "A").getD 0 ∈ kc.workerGroup (layerName kc l)
    rw [e]; exact getD_of_some ha
  · show (kc.invWorker (layerName kc l) "G").getD 0 ∈ kc.workerGroup (layerName kc l)
    rw [e]; exact getD_of_some hg
  · show (kc.invWorker (layerName kc l) "A").getD 0 = (kc.invWorker (layerName kc l) "G").getD 0
    rw [e, ← hfa1, ← hfg1, invWorker_eq h.work.layers hx hfa, invWorker_eq h.work.layers hx hfg,
      rankOf_colocated hc h.work.layers hx hfa hfg]
  · obtain ⟨s, hs, hsw, hsr, _⟩ := C06.src_spec h hr hx
    show (kc.srcGradWorker r (layerName kc l)).getD 0 ∈ kc.workerGroup (layerName kc l) ∧
      (kc.srcGradWorker r (layerName kc l)).getD 0 ∈ kc.receiverGroup r
    rw [e, hs]; exact ⟨hsw, hsr⟩

theorem workers_lt (l r : Nat) (hr : r ∈ (toAssign kc).workers l) : r < kc.w :=
  ((C06.cols_length h.kpos h.dvd).2 _ (facts h h2 hne l).col).2.2 r hr

/-- MEM-OPT: no inverse broadcasts means `k = 1`, and the columns are singletons -/
theorem nobi_single (hb : (toAssign kc).bcastInv = false) (l : Nat) :
    (toAssign kc).workers l = [(toAssign kc).invA l] ∧ (toAssign kc).invG l = (toAssign kc).invA l := by
  have hk1 : kc.k = 1 := Nat.le_antisymm (Nat.le_of_not_lt (of_decide_eq_false hb)) h.kpos
  have f := facts h h2 hne l
  have hw := col_single (hk1 ▸ f.col) f.a
  exact ⟨hw, by simpa [hw] using f.g⟩

/-- COMM-OPT: no gradient broadcasts means `k = w`, and the one column is the world -/
theorem nobg_all (hb : (toAssign kc).bcastGrad = false) (l r : Nat) (hr : r < kc.w) :
    r ∈ (toAssign kc).workers l := by
  have hkw : kc.k = kc.w :=
    Nat.le_antisymm (Nat.le_of_dvd h.wpos h.dvd) (Nat.le_of_not_lt (of_decide_eq_false hb))
  exact col_all h.wpos (hkw ▸ (facts h h2 hne l).col) hr

end

/-- a well-formed KAISA configuration (`C06.OK`), with the two factors per layer, one
    registered layer per entry of the cost dictionary, and pre-division only with co-location
    (enforced by the constructor), gives an assignment satisfying everything the refinement
    theorem (`Refine.refines`) needs -/
theorem kaisa_CfgOK2 (kc : Kaisa.Cfg) (h : C06.OK kc) (h2 : TwoFactors kc) (hne : kc.work ≠ [])
    (p : Precond.Cfg)
    (hl : p.layers.length = kc.work.length) (hacc : 0 < p.accum)
    (hpre : p.prediv = true → kc.colocate = true) :
    Refine.CfgOK2 (mkCfg kc p) :=
  have _ := hl
  have f := facts h h2 hne
  { world_pos := h.wpos
    accum_pos := hacc
    workers_lt := workers_lt h h2 hne
    invA_mem := fun l => (f l).a
    invG_mem := fun l => (f l).g
    prediv_coloc := fun hp l => (f l).coloc (hpre hp)
    nobi_single := fun hb l => (nobi_single h h2 hne hb l).1
    nobg_all := nobg_all h h2 hne
    recv_lt := recv_lt h
    src_recv := fun r l hr => ((f l).src r hr).2
    src_worker := fun r l hr => ((f l).src r hr).1
    rows := rows_rep h }

/-- the same for the script well-formedness theorems of C03 (`kfac_script_wf`) -/
theorem kaisa_CfgOK (kc : Kaisa.Cfg) (h : C06.OK kc) (h2 : TwoFactors kc) (hne : kc.work ≠ [])
    (p : Precond.Cfg)
    (hl : p.layers.length = kc.work.length) (hacc : 0 < p.accum) :
    C03.CfgOK (mkCfg kc p) :=
  have _ := hl
  have f := facts h h2 hne
  { accum_pos := hacc
    workers_lt := workers_lt h h2 hne
    invA_mem := fun l => (f l).a
    invG_mem := fun l => (f l).g
    recv_lt := recv_lt h
    src_recv := fun r l hr => ((f l).src r hr).2 }

/-- the same for the holdings theorems of C13 -/
theorem kaisa_AsgOK (kc : Kaisa.Cfg) (h : C06.OK kc) (h2 : TwoFactors kc) (hne : kc.work ≠ [])
    (p : Precond.Cfg)
    (hl : p.layers.length = kc.work.length) :
    C13.AsgOK (mkCfg kc p) :=
  have _ := hl
  have f := facts h h2 hne
  { workers_lt := workers_lt h h2 hne
    invA_mem := fun l => (f l).a
    invG_mem := fun l => (f l).g
    nobi_single := nobi_single h h2 hne }

end KV.KaisaLink
