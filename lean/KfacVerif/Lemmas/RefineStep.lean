/-
Refinement Precond ⟶ Spec: the inverse phase of one layer ⟷ `Spec.refresh`, and
`KFACPreconditioner.step()` ⟷ `Spec.step`, phase by phase (`facFlush`, `invFlush`, `gradTail` of PrecondOps
against `stepA`, `stepB`, `stepFin` of SpecFrames).
Core Lean only.
-/
import KfacVerif.Lemmas.RefineRel
import KfacVerif.Lemmas.RefineSecondOrder

namespace KV.Refine
open KV KV.Precond

theorem invStep_ok {c d s l} (he : OK (invStep c d s l)) : OK s := by
  unfold invStep at he
  simp only [computeAInv_eq, computeGInv_eq] at he
  exact (ok_of_run (ite_ok broadcastAInv_ok (ok_of_run (ite_ok broadcastGInv_ok he)).1)).1

/-- the part of the second-order data that is computed from `A`, and the part computed from `G` -/
def SOA (m : Method) (p : Bool) (v : LV) (y : Spec.SLayer) : Prop :=
  match m with
  | .eigen => v.qa = y.qa ∧ (p = false → v.da = y.da)
  | .inverse => v.aInv = y.aInv

def SOG (m : Method) (p : Bool) (v : LV) (y : Spec.SLayer) : Prop :=
  match m with
  | .eigen => v.qg = y.qg ∧ (if p then v.dgda = y.dgda else v.dg = y.dg)
  | .inverse => v.gInv = y.gInv

theorem SO.of {c : Cfg} {v y} (ha : SOA c.method c.prediv v y) (hg : SOG c.method c.prediv v y) : SO c v y := by
  obtain ⟨_, _, _, m, p, _, _, _, _, _, _, _, _⟩ := c
  cases m <;> cases p
  · exact ⟨ha.1, hg.1, ha.2 rfl, hg.2⟩
  · exact ⟨ha.1, hg.1, hg.2⟩
  · exact ⟨ha, hg⟩
  · exact ⟨ha, hg⟩

/-- `v` holds the decomposition of `fa`; pre-dividing, its `da` is what `compute_g_inv` consumes -/
def ADec (m : Method) (d : Rat) (fa : V) (v : LV) : Prop :=
  match m with
  | .eigen => v.qa = some (.eigQ fa) ∧ v.da = some (.eigD fa)
  | .inverse => v.aInv = some (.inv fa d)

theorem ADec.gCA (m d) (v : LV) : ADec m d (v.aFactor.getD .zero) (gCA m d v) := by
  cases m
  · exact ⟨rfl, rfl⟩
  · rfl

theorem ADec.soa {sc : Spec.SCfg} {d v} {y : Spec.SLayer} (h : ADec sc.method d (y.aFactor.getD .zero) v) :
    SOA sc.method sc.prediv v (Spec.rfL sc d y) := by
  obtain ⟨_, _, m, p, _, _⟩ := sc
  cases m
  · cases p
    · exact ⟨h.1, fun _ => h.2⟩
    · exact ⟨h.1, nofun⟩
  · exact h

theorem SOA.bcA {m p R w y} (h : SOA m p R y) : SOA m p (bcA m p R w) y := by
  cases m
  · cases p
    · exact ⟨h.1, fun _ => h.2 rfl⟩
    · exact ⟨h.1, nofun⟩
  · exact h

/-- pre-dividing, the eigenvalues of `A` are not sent: only the root still holds them -/
theorem ADec.bcA {m p d fa R w} (h : ADec m d fa R) (hw : p = true → w = R) : ADec m d fa (bcA m p R w) := by
  cases m
  · cases p
    · exact h
    · cases hw rfl
      have hq : R.qa ≠ none := h.1 ▸ Option.some_ne_none _
      exact ⟨h.1, (if_neg hq).trans h.2⟩
  · exact h

theorem SOG.bcA {m p R w y} (h : SOG m p w y) : SOG m p (bcA m p R w) y := by
  cases m <;> cases p <;> exact h

theorem SOA.gCG {m p d v y} (h : SOA m p v y) : SOA m p (gCG m p d v) y := by
  cases m
  · cases p
    · exact h
    · exact ⟨h.1, nofun⟩
  · exact h

/-- `compute_g_inv` from the right `G` factor, where the decomposition of `A` is at hand -/
theorem SOG.gCG {sc : Spec.SCfg} {d v} {y : Spec.SLayer} (hg : v.gFactor = y.gFactor)
    (ha : ADec sc.method d (y.aFactor.getD .zero) v) :
    SOG sc.method sc.prediv (gCG sc.method sc.prediv d v) (Spec.rfL sc d y) := by
  obtain ⟨_, _, m, p, _, _⟩ := sc
  cases m
  · cases p
    · exact ⟨congrArg (fun f : Option V => some (V.eigQ (f.getD .zero))) hg,
        congrArg (fun f : Option V => some (V.eigD (f.getD .zero))) hg⟩
    · refine ⟨congrArg (fun f : Option V => some (V.eigQ (f.getD .zero))) hg, ?_⟩
      show some (V.outerInv (.eigD (v.gFactor.getD .zero)) (v.da.getD .garbage) d) = _
      rw [hg, ha.2]; rfl
  · exact congrArg (fun f : Option V => some (V.inv (f.getD .zero) d)) hg

theorem SOA.bcG {m p R w y} (h : SOA m p w y) : SOA m p (bcG m p R w) y := by
  cases m <;> cases p <;> exact h

theorem SOG.bcG {m p R w y} (h : SOG m p R y) : SOG m p (bcG m p R w) y := by
  cases m <;> cases p <;> exact h

def base (v : LV) : Option V × Nat × Option V × Nat × Option V × Option V :=
  (v.aBatch, v.aCount, v.gBatch, v.gCount, v.aFactor, v.gFactor)

def sbase (y : Spec.SLayer) : Option (List V) × Nat × Option (List V) × Nat × Option V × Option V :=
  (y.aBatch, y.aCount, y.gBatch, y.gCount, y.aFactor, y.gFactor)

theorem base_gCA (m d v) : base (gCA m d v) = base v := by cases m <;> rfl
theorem base_gCG (m p d v) : base (gCG m p d v) = base v := by cases m <;> cases p <;> rfl
theorem base_bcA (m p R v) : base (bcA m p R v) = base v := by cases m <;> cases p <;> rfl
theorem base_bcG (m p R v) : base (bcG m p R v) = base v := by cases m <;> cases p <;> rfl
theorem sbase_rfL (sc d y) : sbase (Spec.rfL sc d y) = sbase y :=
  Spec.rfL_proj sbase (fun _ _ _ _ _ _ _ _ => rfl) sc d y

theorem base_gFactor {v v' : LV} (h : base v' = base v) : v'.gFactor = v.gFactor := congrArg (·.2.2.2.2.2) h

/-- a rank that computes both decompositions from the right factors holds the refreshed data -/
theorem compBoth_so (sc : Spec.SCfg) (d : Rat) {v : LV} {y : Spec.SLayer}
    (hfa : v.aFactor = y.aFactor) (hfg : v.gFactor = y.gFactor) :
    SOA sc.method sc.prediv (gCG sc.method sc.prediv d (gCA sc.method d v)) (Spec.rfL sc d y) ∧
    SOG sc.method sc.prediv (gCG sc.method sc.prediv d (gCA sc.method d v)) (Spec.rfL sc d y) :=
  have ha := hfa ▸ ADec.gCA sc.method d v
  ⟨ha.soa.gCG, .gCG ((base_gFactor (base_gCA ..)).trans hfg) ha⟩

theorem CellRel.of_base {c r l v y v' y'} (h : CellRel c r l v y) (hb : base v' = base v)
    (hs : sbase y' = sbase y) (hso : r ∈ c.asg.workers l → SO c v' y') : CellRel c r l v' y' := by
  simp only [base, sbase, Prod.mk.injEq] at hb hs
  obtain ⟨b1, b2, b3, b4, b5, b6⟩ := hb
  obtain ⟨s1, s2, s3, s4, s5, s6⟩ := hs
  exact ⟨by rw [b1, s1]; exact h.aBatch, by rw [b2, s2]; exact h.aCount, by rw [b3, s3]; exact h.gBatch,
    by rw [b4, s4]; exact h.gCount, by rw [b5, s5]; exact h.aFactor, by rw [b6, s6]; exact h.gFactor, hso⟩

theorem TLay.of_sbase {c y y'} (h : TLay c y) (hs : sbase y' = sbase y) : TLay c y' := by
  simp only [sbase, Prod.mk.injEq] at hs
  obtain ⟨s1, s2, s3, s4, s5, s6⟩ := hs
  exact ⟨by rw [s1]; exact h.aLen, by rw [s3]; exact h.gLen⟩

theorem holdsA_gCA (m p d v) : Holds (gCA m d v) (fldsA m p) := by
  cases m <;> cases p <;> rfl

theorem holdsA_gCG (m p d v) (h : Holds v (fldsA m p)) : Holds (gCG m p d v) (fldsA m p) := by
  cases m <;> cases p <;> exact h

theorem holdsG_gCG (m p d v) : Holds (gCG m p d v) (fldsG m p) := by
  cases m <;> cases p <;> rfl

theorem holdsG_bcA (m p R v) (h : Holds v (fldsG m p)) : Holds (bcA m p R v) (fldsG m p) := by
  cases m <;> cases p <;> exact h

/-- `s'` differs from `s` in layer `l` only, and there only outside `base` (second-order data, gradient) -/
structure SOnly (c : Cfg) (s s' : St) (l : Nat) : Prop where
  same : Same s s'
  shape : Shape c s'
  other : ∀ r l', l' ≠ l → cell s' r l' = cell s r l'
  base : ∀ r, base (cell s' r l) = base (cell s r l)

theorem Eff.sOnly {c s s' G} {P : Nat → Prop} {l : Nat} (e : Eff c s s' (fun r' l' => P r' ∧ l' = l) G)
    (hG : ∀ r l v, base (G r l v) = base v) : SOnly c s s' l :=
  ⟨e.same, e.shape, fun r _ => e.other r, fun r => e.keeps base hG r l⟩

theorem SOnly.trans {c s s1 s2 l} (h1 : SOnly c s s1 l) (h2 : SOnly c s1 s2 l) : SOnly c s s2 l :=
  ⟨h1.same.trans h2.same, h2.shape, fun r l' hne => (h2.other r l' hne).trans (h1.other r l' hne),
   fun r => (h2.base r).trans (h1.base r)⟩

theorem Rel.refresh {c s s' t} (h : Rel c s t) {l : Nat} (hl : l < c.layers.length) (d : Rat)
    (ho : SOnly c s s' l)
    (hso : ∀ r, r < c.world → r ∈ c.asg.workers l →
      SO c (cell s' r l) (Spec.rfL (Spec.ofCfg c) d (Spec.getS t l))) :
    Rel c s' (Spec.refresh (Spec.ofCfg c) t l d) := by
  obtain ⟨hT, hC⟩ := h.lay l hl
  rw [Spec.refresh_eq]
  exact h.setLayer hl ho.same ho.shape ho.other ⟨hT.of_sbase (sbase_rfL ..), fun r hr =>
    (hC r hr).of_base (ho.base r) (sbase_rfL ..) (hso r hr)⟩

theorem invStep_rel {c s t} (hc : CfgOK2 c) (h : Rel c s t) {l : Nat} (hl : l < c.layers.length) (d : Rat)
    (he : OK (invStep c d s l)) :
    Rel c (invStep c d s l) (Spec.refresh (Spec.ofCfg c) t l d) := by
  obtain ⟨ha, hg, haw, hgw⟩ := hc.inv_workers l
  have hC := (h.lay l hl).2
  unfold invStep at he ⊢
  cases hb : c.asg.bcastInv <;> simp only [hb, Bool.false_eq_true, if_false, if_true] at he ⊢
  · -- no broadcasts: the inverse worker is the only gradient worker
    have hWeq := hc.nobi_single hb l
    have hga : c.asg.invG l = c.asg.invA l := by
      rw [hWeq] at hg; simpa using hg
    rw [hga] at he ⊢
    have e := compBoth_eff h.shape haw hl d he
    refine h.refresh hl d (e.sOnly (fun _ _ _ => (base_gCG ..).trans (base_gCA ..)))
      (fun r hr hw => ?_)
    have hra : r = c.asg.invA l := by rw [hWeq] at hw; simpa using hw
    subst hra
    rw [e.on rfl]
    have ⟨a, g⟩ := compBoth_so (Spec.ofCfg c) d (hC _ hr).aFactor (hC _ hr).gFactor
    exact .of a g
  · -- with broadcasts
    simp only [computeAInv_eq, computeGInv_eq] at he ⊢
    have o3 := broadcastGInv_ok he
    have o2 := (ok_of_run o3).1
    have e1 := Eff.run h.shape haw hl (broadcastAInv_ok o2) (Cell.computeAInv_lv c d _)
    have e2 := broadcastAInv_eff e1.shape hl (hc.workers_lt l) ha
      (by rw [e1.on rfl]; exact holdsA_gCA _ _ _ _) o2
    have e3 := Eff.run e2.shape hgw hl o3 (Cell.computeGInv_lv c d _)
    have e4 := broadcastGInv_eff e3.shape hl (hc.workers_lt l) hg
      (by rw [e3.on rfl]; exact holdsG_gCG _ _ _ _) he
    generalize Cell.run s (c.asg.invA l) l _ = s1 at *
    generalize broadcastAInv c s1 l = s2 at *
    generalize Cell.run s2 (c.asg.invG l) l _ = s3 at *
    generalize broadcastGInv c s3 l = s4 at *
    have k2 := (e1.sOnly fun _ _ _ => base_gCA ..).trans (e2.sOnly fun _ _ _ => base_bcA ..)
    refine h.refresh hl d ((k2.trans (e3.sOnly fun _ _ _ => base_gCG ..)).trans (e4.sOnly fun _ _ _ => base_bcG ..))
      fun r hr hw => ?_
    -- `invA` decomposes `A`
    have a1 : ADec c.method d ((Spec.getS t l).aFactor.getD .zero) (cell s1 (c.asg.invA l) l) := by
      rw [e1.on rfl, ← (hC _ haw).aFactor]; exact .gCA ..
    -- its broadcast hands the `A` part to every worker; `invG` has all of the decomposition (pre-dividing,
    -- `da` is not sent: `invG` has it because it IS `invA`, `prediv_coloc`)
    have a2 : SOA c.method c.prediv (cell s2 r l) (Spec.rfL (Spec.ofCfg c) d (Spec.getS t l)) :=
      e2.on hw ▸ (ADec.soa (sc := Spec.ofCfg c) a1).bcA
    have a2g : ADec c.method d ((Spec.getS t l).aFactor.getD .zero) (cell s2 (c.asg.invG l) l) :=
      e2.on hg ▸ a1.bcA fun hp => by rw [hc.prediv_coloc hp l]
    -- so `invG` computes the `G` part, which leaves the `A` part alone
    have g3 : SOG c.method c.prediv (cell s3 (c.asg.invG l) l) (Spec.rfL (Spec.ofCfg c) d (Spec.getS t l)) :=
      e3.on rfl ▸ SOG.gCG (sc := Spec.ofCfg c) ((base_gFactor (k2.base _)).trans (hC _ hgw).gFactor) a2g
    have a3 : SOA c.method c.prediv (cell s3 r l) (Spec.rfL (Spec.ofCfg c) d (Spec.getS t l)) := by
      by_cases hrg : r = c.asg.invG l
      · rw [e3.on hrg]; exact a2.gCG
      · rw [e3.miss r l fun k => hrg k.1]; exact a2
    -- and its broadcast hands the `G` part to every worker
    rw [e4.on hw]
    exact .of a3.bcG g3.bcG

/-! ### the factor phase of `step()` -/

def sFacStep (c : Spec.SCfg) (alpha : Rat) (t : Spec.SSt) (l : Nat) : Spec.SSt :=
  let t := { t with mini := t.mini.set l 0 }
  Spec.updateReduce c (Spec.updateReduce c t l true alpha) l false alpha

def sOut (c : Spec.SCfg) (t : Spec.SSt) (d : Rat) : List V :=
  let vs := (Spec.idxs c).map fun l => Spec.precond c t l d
  match t.hyper.kl.val t.steps with
  | none => vs
  | some k =>
    let sum := (Spec.revIdxs c).foldl (fun acc l =>
      let t' := V.inner (vs.getD l .garbage) (.rawGrad l t.steps)
      match acc with | none => some t' | some a => some (V.add a t')) (none : Option V)
    let n := V.nu k (t.hyper.lr.val t.steps) (sum.getD .zero)
    vs.map fun v => V.scale n v

theorem sStep_eq (c : Spec.SCfg) (t : Spec.SSt) :
    Spec.step c t =
      let fus := t.hyper.fus.val t.steps
      let ius := t.hyper.ius.val t.steps
      let damping := t.hyper.damping.val t.steps
      let alpha := t.hyper.decay.val t.steps
      let t1 := if !c.hook && t.steps % fus == 0 then (Spec.revIdxs c).foldl (sFacStep c alpha) t else t
      let t2 := if t1.steps % ius == 0 then (Spec.revIdxs c).foldl (fun t l => Spec.refresh c t l damping) t1 else t1
      { t2 with steps := t2.steps + 1, mini := List.replicate c.nLayers 0, out := sOut c t2 damping } := by
  delta sOut sFacStep
  rfl

theorem facStep_ok1 {c α s l} (he : OK (facStep c α s l)) :
    OK (reduceFactor c (forRanks c { s with mini := s.mini.set l 0 } fun s r => updateFactor s r l true α) l true) :=
  updRed_ok he

theorem facStep_ok {c α s l} (he : OK (facStep c α s l)) : OK s :=
  (updRed_ok (facStep_ok1 he) :)

theorem facStep_rel {c s t} (hw0 : 0 < c.world) (α : Rat) {l : Nat} (hl : l < c.layers.length)
    (h : Rel c s t) (he : OK (facStep c α s l)) :
    Rel c (facStep c α s l) (sFacStep (Spec.ofCfg c) α t l) := by
  unfold sFacStep
  rw [← h.mini]
  exact updRed_rel hw0 (updRed_rel hw0 (h.setMini (s.mini.set l 0)) hl true α (facStep_ok1 he)) hl false α he

/-! ### the gradient phase over all layers -/

theorem pgOf_noGrad (m p l steps d) {v v' : LV} (e : noGrad v' = noGrad v) :
    pgOf m p l steps d v' = pgOf m p l steps d v := by
  rw [eq_of_noGrad e]; rfl

theorem pgOf_SO {c : Cfg} {v : LV} {t : Spec.SSt} {l : Nat} (d : Rat) (h : SO c v (Spec.getS t l)) :
    pgOf c.method c.prediv l t.steps d v = Spec.precond (Spec.ofCfg c) t l d := by
  unfold pgOf Spec.precond SO at *
  simp only [Spec.ofCfg]
  cases hm : c.method <;> simp only [hm] at h ⊢
  · by_cases hp : c.prediv = true
    · simp only [hp, if_true] at h ⊢
      rw [h.1, h.2.1, h.2.2]
    · simp only [hp, if_false, Bool.false_eq_true] at h ⊢
      rw [h.1, h.2.1, h.2.2.1, h.2.2.2]
  · rw [h.1, h.2]

theorem gradPhase {c s t} (hc : CfgOK2 c) (h : Rel c s t) (d : Rat)
    (he : OK ((revLayers c).foldl (gradStep c d) s)) :
    Eff c s ((revLayers c).foldl (gradStep c d) s) (fun r l => r < c.world ∧ l < c.layers.length)
      (fun _ l v => { v with grad := some (Spec.precond (Spec.ofCfg c) t l d) }) := by
  refine (foldl_effQ OK c (gradStep c d) (fun l r' l' => r' < c.world ∧ l' = l)
    (fun _ l v => { v with grad := some (Spec.precond (Spec.ofCfg c) t l d) }) (revLayers c) s
    (.inl fun _ _ _ => rfl) (fun _ _ => gradStep_ok) (fun s' l _ hl e hok => ?_) h.shape he).congrK
    fun r l => ⟨?_, ?_⟩
  · have hl' := mem_revLayers.mp hl
    refine (gradStep_eff hc e.shape hl' d _ (fun r hr => ?_) hok).congrG fun _ _ k => by rw [k.2]
    -- the layers done so far have changed gradients only
    rw [pgOf_noGrad _ _ _ _ _ (e.keeps noGrad (fun _ _ _ => rfl) r l), e.same.steps, h.steps]
    exact pgOf_SO d (((h.lay l hl').2 r (hc.workers_lt l r hr)).so hr)
  · rintro ⟨x, hx, hr, rfl⟩
    exact ⟨hr, mem_revLayers.mp hx⟩
  · rintro ⟨hr, hl⟩
    exact ⟨l, mem_revLayers.mpr hl, hr, rfl⟩

theorem Cell.clipStep_lv (x : LState) : (Cell.clipStep x).All fun y => lv y = lv x :=
  .ite (fun _ => trivial) fun _ => by simp [Cell.Out.All, lv]

theorem clipStep_ok {r s l} (he : OK (clipStep r s l)) : OK s :=
  (ok_of_run (clipStep_eq r s l ▸ he)).1

theorem clipRead_ok {c s} (he : OK (clipRead c s)) : OK s :=
  foldl_mono OK _ (fun _ _ h => foldl_mono OK _ (fun _ _ => clipStep_ok) _ _ h) _ _ he

theorem clipRead_neutral {c s} (hs : Shape c s) : Neutral c s (clipRead c s) :=
  clipRead_eq c s ▸ eachCell_neutral hs (fun _ => mem_revLayers.mp) fun _ _ => Cell.clipStep_lv

theorem clearGrads_err (c : Cfg) (s : St) : (clearGrads c s).err = s.err :=
  clearGrads_eq c s ▸ mapCells_err ..

theorem clearGrads_eff {c s} (hs : Shape c s) :
    Eff c s (clearGrads c s) (fun r l => r < c.world ∧ l < c.layers.length) (fun _ _ => noGrad) :=
  clearGrads_eq c s ▸ mapCells_eff hs fun _ _ _ => rfl

theorem outs_eq {c : Cfg} {s : St} {t : Spec.SSt} (kl : Option Rat) (lr d : Rat)
    (hsteps : s.steps = t.steps) (hkl : kl = t.hyper.kl.val t.steps) (hlr : lr = t.hyper.lr.val t.steps)
    (hg : ∀ l, l < c.layers.length → ∀ r, r < c.world →
      (cell s r l).grad = some (Spec.precond (Spec.ofCfg c) t l d))
    (r : Nat) (hr : r < c.world) :
    (outsOf c s kl lr).getD r [] =
      Spec.stepOut (Spec.ofCfg c) d (t.hyper.kl.val t.steps) (t.hyper.lr.val t.steps) t := by
  unfold outsOf
  rw [show worldRanks c = List.range c.world from rfl, getD_map_range _ _ _ _ hr]
  have hvs : ((layerIdxs c).map fun l => (((getL s r l).grad).map (·.val)).getD .garbage) =
      (Spec.idxs (Spec.ofCfg c)).map fun l => Spec.precond (Spec.ofCfg c) t l d := by
    apply List.map_congr_left
    intro l hl
    have := hg l (mem_layerIdxs.mp hl) r hr
    show ((cell s r l).grad).getD .garbage = _
    rw [this]; rfl
  simp only []
  rw [hvs, hkl, hlr, hsteps]
  rfl

/-! ### `step()` -/

/-- `stepAll` with the hyper-parameters of the step as variables -/
def stepWith (c : Cfg) (s : St) (b1 : Bool) (ius : Nat) (d α : Rat) : St :=
  gradTail c d (invFlush c ius d (facFlush c b1 α s))

theorem gradTail_ok {c d s3} (he : OK (gradTail c d s3)) :
    OK (clipRead c (flushBucket c ((revLayers c).foldl (gradStep c d) s3))) := by
  have : OK (clearGrads c (clipRead c (flushBucket c ((revLayers c).foldl (gradStep c d) s3)))) := he
  rwa [OK, clearGrads_err] at this

theorem gradTail_rel {c s t} (hc : CfgOK2 c) (h : Rel c s t) (d : Rat) (he : OK (gradTail c d s)) :
    Rel c (gradTail c d s) (Spec.stepFin (Spec.ofCfg c) d t) := by
  have o5 := gradTail_ok he
  have o4 := clipRead_ok o5
  have o3 : OK ((revLayers c).foldl (gradStep c d) s) := by rwa [OK, flushBucket_err] at o4
  have g := gradPhase hc h d o3
  unfold gradTail Spec.stepFin
  simp only []
  generalize (revLayers c).foldl (gradStep c d) s = s3' at *
  have n4 := flushBucket_neutral g.shape
  generalize flushBucket c s3' = s4 at *
  have n5 := clipRead_neutral n4.shape
  generalize clipRead c s4 = s5 at *
  have k := clearGrads_eff n5.shape
  generalize clearGrads c s5 = s6 at *
  have hrel := h.noGrad (((g.same.trans n4.same).trans n5.same).trans k.same) k.shape fun r l => by
    rw [k.keeps noGrad (fun _ _ _ => rfl), n5.cell, n4.cell]; exact g.keeps noGrad (fun _ _ _ => rfl) r l
  have h4s : s4.steps = t.steps := (g.same.trans n4.same).steps.trans h.steps
  have h4h : s4.hyper = t.hyper := (g.same.trans n4.same).hyper.trans h.hyper
  exact { hrel with
    steps := congrArg (· + 1) hrel.steps
    mini := rfl
    out := fun r hr => outs_eq _ _ d (n5.same.steps.trans h4s) (by rw [h4s, h4h]) (by rw [h4s, h4h])
      (fun l hl r hr => by rw [n5.cell, n4.cell, g.hit r l ⟨hr, hl⟩]) r hr
    shape := k.shape.of_ranks rfl }

theorem stepWith_oks {c s b1 ius d α} (he : OK (stepWith c s b1 ius d α)) :
    let s1 := if b1 then (revLayers c).foldl (facStep c α) s else s
    let s2 := flushBucket c s1
    OK (if s2.steps % ius == 0 then flushBucket c ((revLayers c).foldl (invStep c d) s2) else s2) ∧ OK s1 := by
  intro s1 s2
  have o4 := clipRead_ok (gradTail_ok he)
  rw [OK, flushBucket_err] at o4
  have o3 := foldl_mono OK _ (fun s l => gradStep_ok) _ _ o4
  have o2 : OK s2 := ite_ok (fun h => foldl_mono OK _ (fun _ _ => invStep_ok) _ _ ((flushBucket_err ..).symm.trans h)) o3
  exact ⟨o3, (flushBucket_err ..).symm.trans o2⟩

theorem stepWith_ok {c s b1 ius d α} (he : OK (stepWith c s b1 ius d α)) : OK s :=
  ite_ok (foldl_mono OK _ (fun _ _ => facStep_ok) _ _) (stepWith_oks he).2

theorem stepWith_rel {c s t} (hc : CfgOK2 c) (h : Rel c s t) (b1 : Bool) (ius : Nat) (d α : Rat)
    (he : OK (stepWith c s b1 ius d α)) :
    Rel c (stepWith c s b1 ius d α)
      (Spec.stepFin (Spec.ofCfg c) d (Spec.stepB (Spec.ofCfg c)
        ((Spec.stepA (Spec.ofCfg c) b1 α t).steps % ius == 0) d (Spec.stepA (Spec.ofCfg c) b1 α t))) := by
  obtain ⟨o3, o1⟩ := stepWith_oks he
  unfold stepWith invFlush facFlush at he ⊢
  -- by unfolding: `Spec.stepA` folds `sFacStep` over `Spec.revIdxs`, which is `revLayers c`
  have h1 : Rel c _ (Spec.stepA (Spec.ofCfg c) b1 α t) :=
    h.ite o1 fun o => foldl_rel (Rel c) (facStep c α) (sFacStep (Spec.ofCfg c) α) (revLayers c)
      (fun _ _ => facStep_ok) (fun _ _ l hl h he => facStep_rel hc.world_pos α (mem_revLayers.mp hl) h he) s t h o
  generalize (if b1 = true then (revLayers c).foldl (facStep c α) s else s) = s1 at *
  generalize Spec.stepA (Spec.ofCfg c) b1 α t = t1 at *
  have h2 := h1.neutral (flushBucket_neutral h1.shape)
  generalize flushBucket c s1 = s2 at *
  rw [← h2.steps]
  refine gradTail_rel hc (h2.ite o3 fun o => ?_) d he
  have := foldl_rel (Rel c) (invStep c d) (fun t l => Spec.refresh (Spec.ofCfg c) t l d) (revLayers c)
    (fun _ _ => invStep_ok) (fun _ _ l hl h he => invStep_rel hc h (mem_revLayers.mp hl) d he) s2 t1 h2
    ((flushBucket_err ..).symm.trans o)
  exact this.neutral (flushBucket_neutral this.shape)

theorem stepAll_rel {c s t} (hc : CfgOK2 c) (h : Rel c s t) (he : OK (stepAll c s)) :
    Rel c (stepAll c s) (Spec.step (Spec.ofCfg c) t) := by
  rw [Spec.step_eq0, ← h.steps, ← h.hyper]
  exact stepWith_rel hc h (!c.hook && s.steps % s.hyper.fus.val s.steps == 0) (s.hyper.ius.val s.steps)
    (s.hyper.damping.val s.steps) (s.hyper.decay.val s.steps) he

theorem stepAll_ok {c s} (he : OK (stepAll c s)) : OK s :=
  stepWith_ok (b1 := !c.hook && s.steps % s.hyper.fus.val s.steps == 0) (ius := s.hyper.ius.val s.steps)
    (d := s.hyper.damping.val s.steps) (α := s.hyper.decay.val s.steps) he

end KV.Refine
