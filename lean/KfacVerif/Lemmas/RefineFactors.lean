/-
Refinement Precond ⟶ Spec: effects of the factor primitives (`saveBatch`, `updateFactor`,
`flushBucket`, `reduceFactor`).  Names: `gX` is what the primitive `X` does to the value view `LV` of the
cell it runs in (`gSave`, `gUpd`); `batchOf`/`countOf`/`facOf`, `setBatch`/`setFac` read and write the A or
the G side of an `LV`, chosen by `isA`.  Core Lean only.
-/
import KfacVerif.Lemmas.RefineView
import KfacVerif.Lemmas.SpecFrames

namespace KV.Refine
open KV KV.Precond
open KV.BucketLink (putFac)
open KV.Spec (acc accN)

def batchOf (isA : Bool) (v : LV) : Option V := if isA then v.aBatch else v.gBatch
def countOf (isA : Bool) (v : LV) : Nat := if isA then v.aCount else v.gCount
def setBatch (isA : Bool) (v : LV) (b : Option V) (n : Nat) : LV :=
  if isA then { v with aBatch := b, aCount := n } else { v with gBatch := b, gCount := n }

def gSave (isA : Bool) (pass : Nat) (r l : Nat) (v : LV) : LV :=
  setBatch isA v (some (acc V.add (batchOf isA v) (.cov l isA r pass))) (accN (batchOf isA v) (countOf isA v))

theorem saveBatch_err (s r l isA) : (saveBatch s r l isA).err = s.err := rfl

theorem saveBatch_eff {c s} (hs : Shape c s) {r l : Nat} (hr : r < c.world) (hl : l < c.layers.length)
    (isA : Bool) :
    Eff c s (saveBatch s r l isA) (fun r' l' => r' = r ∧ l' = l) (gSave isA s.pass) := by
  rw [saveBatch_eq]
  refine Eff.write hs hr hl [] _ _ ?_
  cases isA <;> simp only [gSave, setBatch, batchOf, countOf, cell, lv, Bool.false_eq_true, if_false, if_true]
  · cases (getL s r l).gBatch <;> rfl
  · cases (getL s r l).aBatch <;> rfl

def gUpd (isA : Bool) (alpha : Rat) (_r l : Nat) (v : LV) : LV :=
  if isA then
    match v.aBatch with
    | none => v
    | some b => { v with aBatch := none,
                         aFactor := some (.ema alpha (v.aFactor.getD (.ident l true))
                                      (if v.aCount > 1 then .divN b v.aCount else b)) }
  else
    match v.gBatch with
    | none => v
    | some b => { v with gBatch := none,
                         gFactor := some (.ema alpha (v.gFactor.getD (.ident l false))
                                      (if v.gCount > 1 then .divN b v.gCount else b)) }

theorem gUpd_idem (isA α r l v) : gUpd isA α r l (gUpd isA α r l v) = gUpd isA α r l v := by
  cases isA
  · simp only [gUpd, Bool.false_eq_true, if_false]
    cases h : v.gBatch <;> simp [h]
  · simp only [gUpd, if_true]
    cases h : v.aBatch <;> simp [h]

theorem Cell.updateFactor_lv (l : Nat) (isA : Bool) (α : Rat) (r : Nat) (x : LState) :
    ∃ rs y, Cell.updateFactor l isA α x = .write rs y ∧ lv y = gUpd isA α r l (lv x) := by
  unfold Cell.updateFactor
  cases isA <;> simp only [Bool.false_eq_true, if_false, if_true]
  · cases hb : x.gBatch with
    | none => exact ⟨_, _, rfl, by simp [gUpd, lv, hb]⟩
    | some b => exact ⟨_, _, rfl, by simp [gUpd, lv, hb, Cell.emaSlot_val]⟩
  · cases hb : x.aBatch with
    | none => exact ⟨_, _, rfl, by simp [gUpd, lv, hb]⟩
    | some b => exact ⟨_, _, rfl, by simp [gUpd, lv, hb, Cell.emaSlot_val]⟩

theorem updateFactor_err (s r l isA α) : (updateFactor s r l isA α).err = s.err := by
  obtain ⟨rs, y, e, _⟩ := Cell.updateFactor_lv l isA α r (getL s r l)
  rw [updateFactor_eq, e, run_write_err]

theorem updateFactor_eff {c s} (hs : Shape c s) {r l : Nat} (hr : r < c.world) (hl : l < c.layers.length)
    (isA : Bool) (α : Rat) :
    Eff c s (updateFactor s r l isA α) (fun r' l' => r' = r ∧ l' = l) (gUpd isA α) := by
  obtain ⟨rs, y, e, h⟩ := Cell.updateFactor_lv l isA α r (getL s r l)
  rw [updateFactor_eq, e]
  exact Eff.write hs hr hl rs y _ h

theorem saveAll_err (c : Cfg) (s : St) (l : Nat) (isA : Bool) :
    (forRanks c s fun s r => saveBatch s r l isA).err = s.err :=
  foldl_pres St.err _ (fun s r => saveBatch_err s r l isA) _ _

theorem saveAll_eff {c s} (hs : Shape c s) {l : Nat} (hl : l < c.layers.length) (isA : Bool) :
    Eff c s (forRanks c s fun s r => saveBatch s r l isA) (fun r' l' => r' < c.world ∧ l' = l)
      (gSave isA s.pass) :=
  forRanks_eff (fun _ => True) _ l _ s (fun _ _ _ => trivial)
    (fun _ _ _ hx e _ => e.same.pass ▸ saveBatch_eff e.shape hx hl isA) hs trivial

theorem updateAll_err (c : Cfg) (s : St) (l : Nat) (isA : Bool) (α : Rat) :
    (forRanks c s fun s r => updateFactor s r l isA α).err = s.err :=
  foldl_pres St.err _ (fun s r => updateFactor_err s r l isA α) _ _

theorem updateAll_eff {c s} (hs : Shape c s) {l : Nat} (hl : l < c.layers.length) (isA : Bool) (α : Rat) :
    Eff c s (forRanks c s fun s r => updateFactor s r l isA α) (fun r' l' => r' < c.world ∧ l' = l)
      (gUpd isA α) :=
  forRanks_eff (fun _ => True) _ l _ s (fun _ _ _ => trivial)
    (fun _ _ _ hx e _ => updateFactor_eff e.shape hx hl isA α) hs trivial

theorem flushBucket_err (c : Cfg) (s : St) : (flushBucket c s).err = s.err := by
  rw [flushBucket_eq]; split <;> rfl

theorem flushBucket_neutral {c s} (hs : Shape c s) : Neutral c s (flushBucket c s) := by
  rw [flushBucket_eq]
  split
  · exact Neutral.refl hs
  · refine ⟨⟨rfl, rfl, rfl, rfl, rfl, rfl⟩, hs.map _ rfl, fun r l => ?_⟩
    show lv (((List.map _ s.ranks).getD r []).getD l {}) = lv ((s.ranks.getD r []).getD l {})
    rw [getD_map_map _ _ rfl]
    simp only [lv, sv, flushFix_val]

theorem ite_flush_neutral {c : Cfg} (b : Prop) [Decidable b] {x : St} (hx : Shape c x) :
    Neutral c x (if b then flushBucket c x else x) := by
  split
  · exact flushBucket_neutral hx
  · exact Neutral.refl hx

def facOf (isA : Bool) (v : LV) : Option V := if isA then v.aFactor else v.gFactor

def setFac (isA : Bool) (v : LV) (o : Option V) : LV :=
  if isA then { v with aFactor := o } else { v with gFactor := o }

theorem Cell.readFac_lv (isA : Bool) (x : LState) : ∃ rs y, Cell.readFac isA x = .write rs y ∧ lv y = lv x := by
  cases isA
  · exact ⟨_, _, rfl, by simp [lv]⟩
  · exact ⟨_, _, rfl, by simp [lv]⟩

theorem readFacs_err (c s l isA) : (readFacs c s l isA).err = s.err := by
  refine foldl_pres St.err _ (fun s r => ?_) _ _
  obtain ⟨rs, y, e, _⟩ := Cell.readFac_lv isA (getL s r l)
  rw [Cell.step, e, run_write_err]

theorem readFacs_neutral {c s} (hs : Shape c s) {l : Nat} (hl : l < c.layers.length) (isA : Bool) :
    Neutral c s (readFacs c s l isA) := by
  refine (forRanks_eff (fun _ => True) _ l (fun _ _ v => v) s (fun _ _ _ => trivial)
    (fun s' r _ hr e' _ => ?_) hs trivial).neutral
  obtain ⟨rs, y, e, h⟩ := Cell.readFac_lv isA (getL s' r l)
  rw [Cell.step, e]
  exact Eff.write e'.shape hr hl rs y _ h

theorem putFac_err (c l isA avg p s) : (putFac c l isA avg p s).err = s.err := by
  unfold putFac
  exact foldl_pres St.err (fun s r => setL s r l _) (fun _ _ => rfl) _ _

theorem putFac_eff {c s s'} (n : Neutral c s s') {l : Nat} (hl : l < c.layers.length) (isA : Bool) (avg : V)
    (p : Pend) :
    Eff c s (putFac c l isA avg p s') (fun r' l' => r' < c.world ∧ l' = l)
      (fun _ _ v => setFac isA v (some avg)) := by
  refine n.eff (forRanks_eff (fun _ => True) _ l _ s' (fun _ _ _ => trivial) (fun t x _ hx e _ => ?_) n.shape trivial)
  apply Eff.setL e.shape hx hl
  cases isA <;> rfl

theorem facOf_cell (isA : Bool) (s : St) (r l : Nat) :
    facOf isA (cell s r l) = sv (if isA then (getL s r l).aFactor else (getL s r l).gFactor) := by
  cases isA <;> rfl

theorem facVals_eq (c : Cfg) (s : St) (l : Nat) (isA : Bool) :
    facVals c s l isA = (worldRanks c).map fun r => (facOf isA (cell s r l)).getD .zero := by
  simp only [facOf_cell]
  rfl

theorem missingFac_empty {c s l isA} (h : ¬ (!(missingFac c s l isA).isEmpty) = true) :
    ∀ r, r < c.world → (facOf isA (cell s r l)).isSome := by
  intro r hr
  have he : missingFac c s l isA = [] := by simpa using h
  have hmem : r ∉ missingFac c s l isA := he ▸ List.not_mem_nil
  rw [facOf_cell, Option.isSome_map, Option.isSome_iff_ne_none]
  simpa [missingFac, mem_worldRanks, hr] using hmem

theorem reduceTail_err (c : Cfg) (s1 : St) (l : Nat) (isA : Bool) : (reduceTail c s1 l isA).err = s1.err := by
  unfold reduceTail
  split
  · rfl
  · split
    · rw [putFac_err]
      split
      · exact flushBucket_err ..
      · rfl
    · rw [putFac_err]; rfl

theorem reduceFactor_ok {c s l isA} (he : OK (reduceFactor c s l isA)) : OK s := by
  rw [reduceFactor_eq] at he
  split at he
  · exact absurd he (fail_err _ _ _)
  · rwa [OK, reduceTail_err, readFacs_err] at he

theorem setFac_facOf {isA : Bool} {v : LV} (d : V) (h : (facOf isA v).isSome) :
    setFac isA v (some ((facOf isA v).getD d)) = v := by
  obtain ⟨x, hx⟩ := Option.isSome_iff_exists.mp h
  rw [hx, Option.getD_some, ← hx]
  cases isA <;> rfl

theorem reduceFactor_eff {c s} (hs : Shape c s) {l : Nat} (hl : l < c.layers.length) (isA : Bool)
    (he : OK (reduceFactor c s l isA)) :
    let out := Spec.redOut c.world s.defs ((worldRanks c).map fun r => (facOf isA (cell s r l)).getD .zero)
    (∀ r, r < c.world → (facOf isA (cell s r l)).isSome) ∧
    Eff c { s with defs := out.1 } (reduceFactor c s l isA) (fun r' l' => r' < c.world ∧ l' = l)
      (fun _ _ v => setFac isA v out.2) := by
  rw [reduceFactor_eq] at he ⊢
  by_cases hmiss : (!(missingFac c s l isA).isEmpty) = true
  · rw [if_pos hmiss] at he; exact absurd he (fail_err _ _ _)
  rw [if_neg hmiss]
  refine ⟨missingFac_empty hmiss, ?_⟩
  have n1 := readFacs_neutral hs hl isA
  generalize readFacs c s l isA = s1 at n1 ⊢
  unfold reduceTail Spec.redOut
  by_cases hw : c.world = 1
  · -- a world of one keeps its tensor, which is the one value there is
    rw [if_pos (by simpa using hw), if_pos (by simpa using hw), show worldRanks c = [0] by rw [worldRanks, hw]; rfl]
    refine ⟨n1.same, n1.shape, fun r l' k => ?_, fun r l' _ => n1.cell r l'⟩
    obtain rfl : r = 0 := by omega
    rw [n1.cell, k.2]
    exact (setFac_facOf _ (missingFac_empty hmiss 0 (by omega))).symm
  rw [if_neg (by simpa using hw), if_neg (by simpa using hw)]
  have hvals : facVals c s1 l isA = (worldRanks c).map fun r => (facOf isA (cell s r l)).getD .zero := by
    rw [facVals_eq]
    exact List.map_congr_left fun r _ => by rw [n1.cell]
  -- registering the average is bookkeeping with respect to the state that already lists it
  rw [hvals, n1.same.defs]
  have n2 := n1.withDefs (s.defs ++ [avgOf ((worldRanks c).map fun r => (facOf isA (cell s r l)).getD .zero)])
  split
  · extract_lets elems avg s2 s3
    have n3 : Neutral c _ s3 := n2.trans (ite_flush_neutral _ n2.shape)
    refine putFac_eff (n3.congr ?_ ?_) hl isA _ _
    · exact ⟨rfl, rfl, rfl, rfl, rfl, rfl⟩
    · rfl
  · exact putFac_eff (n2.trans (neutral_tch n2.shape _ _)) hl isA _ _

end KV.Refine
