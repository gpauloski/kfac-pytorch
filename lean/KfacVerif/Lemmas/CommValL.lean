/-
Helper lemmas for the value-level statements about the bucketed all-reduce in Props/C08.lean: one bucket of M-Comm
(`sumRanks`, `unflatten`) and the buckets of M-CommVal (`split`, `results`).

* the sum over ranks commutes with `take` / `drop`, with no condition on lengths (`sumRanks_map`), hence with
  unflattening (`unflatten_sumRanks`) → `C08.value_eq_unbucketed`;
* `split`: an invariant of the open bucket holds for every bucket (`split_inv`);
* `split` against M-Comm's `run` (`run_split`); hence members with the same requests are cut at the same
  positions (`split_lengths_congr`, `split_eq_chunks`);
* flatten / all-reduce / unflatten of M-CommVal are those of M-Comm, so the per-tensor result is what
  the whole sequence as ONE bucket gives (`perTensor_eq_unflatten`, from `unflatten_sumRanks`);
* summing and unflattening bucket by bucket gives the same as for the whole sequence
  (`resultsRec_chunks`, `results_eq_unflatten`).
-/
import KfacVerif.Model.CommVal
import KfacVerif.Lemmas.Bucket
import KfacVerif.Lemmas.BasicL
import Mathlib.Data.List.GetD

namespace KV.CommVL
open KV KV.CommV

/-! ### the sum over ranks commutes with cutting -/

theorem getD_succ_tail {α : Type} (l : List α) (i : Nat) (d : α) : l.getD (i + 1) d = l.tail.getD i d := by
  cases l <;> rfl

theorem sumRanks_map {α : Type} (F : List Int → List Int)
    (hF : ∀ a b, F (List.zipWith (· + ·) a b) = List.zipWith (· + ·) (F a) (F b)) (h0 : F [] = [])
    (f : α → List Int) : ∀ X : List α, F (Comm.sumRanks (X.map f)) = Comm.sumRanks (X.map fun x => F (f x))
  | [] => h0
  | [_] => rfl
  | x :: y :: t => (hF _ _).trans (congrArg (List.zipWith (· + ·) (F (f x))) (sumRanks_map F hF h0 f (y :: t)))

theorem take_sumRanks {α : Type} (n : Nat) (f : α → List Int) (X : List α) :
    (Comm.sumRanks (X.map f)).take n = Comm.sumRanks (X.map fun x => (f x).take n) :=
  sumRanks_map _ (fun _ _ => List.take_zipWith) List.take_nil f X

theorem drop_sumRanks {α : Type} (n : Nat) (f : α → List Int) (X : List α) :
    (Comm.sumRanks (X.map f)).drop n = Comm.sumRanks (X.map fun x => (f x).drop n) :=
  sumRanks_map _ (fun _ _ => List.drop_zipWith) List.drop_nil f X

/-- every rank's sequence `f x` is its first tensor followed by the rest, so the first `n` entries of the sum
    of the flattened sequences are the sum of the first tensors, and the others the sum of the flattened rests -/
theorem unflatten_sumRanks {α : Type} (lens : List Nat) (X : List α) (f : α → List (List Int))
    (hl : ∀ x ∈ X, (f x).map List.length = lens) :
    Comm.unflatten lens (Comm.sumRanks (X.map fun x => Comm.flatten (f x)))
      = (List.range lens.length).map fun i => Comm.sumRanks (X.map fun x => (f x).getD i []) := by
  induction lens generalizing f with
  | nil => rfl
  | cons n t ih =>
    have hx : ∀ x ∈ X, (Comm.flatten (f x)).take n = (f x).getD 0 [] ∧
        (Comm.flatten (f x)).drop n = Comm.flatten (f x).tail ∧ (f x).tail.map List.length = t := by
      intro x hx
      have := hl x hx
      cases hf : f x with
      | nil => rw [hf] at this; cases this
      | cons hd tl =>
        rw [hf] at this
        obtain ⟨h1, h2⟩ := List.cons.inj this
        exact ⟨List.take_left' h1, List.drop_left' h1, h2⟩
    rw [Comm.unflatten, take_sumRanks, drop_sumRanks, List.map_congr_left fun x h => (hx x h).1,
      List.map_congr_left fun x h => (hx x h).2.1, ih (fun x => (f x).tail) fun x h => (hx x h).2.2,
      List.length_cons, List.range_succ_eq_map, List.map_cons, List.map_map]
    simp only [Function.comp_def, getD_succ_tail]

theorem emit_flatten (cur : List Sub) : (emit cur).flatten = cur := by
  unfold emit
  cases cur <;> simp

theorem mem_emit {cur b : List Sub} (h : b ∈ emit cur) : b = cur := by
  unfold emit at h
  split at h
  · cases h
  · simpa using h

theorem split_flatten_gen (cap es : Nat) (subs cur : List Sub) :
    (split cap es subs cur).flatten = cur ++ subs := by
  induction subs generalizing cur with
  | nil => simp [split, emit_flatten]
  | cons s t ih =>
    unfold split
    split
    · rw [List.flatten_append, emit_flatten, ih]; rfl
    · rw [ih]; simp

theorem split_inv (P : List Sub → Prop) (cap es : Nat)
    (h1 : ∀ s, P [s])
    (hstep : ∀ cur s, P cur → flushNow cap es cur s = false → P (cur ++ [s]))
    (subs cur : List Sub) (hc : P cur) : ∀ b ∈ split cap es subs cur, P b := by
  induction subs generalizing cur with
  | nil =>
    intro b hb
    rw [split] at hb
    rw [mem_emit hb]; exact hc
  | cons s t ih =>
    intro b hb
    rw [split] at hb
    split at hb
    · rcases List.mem_append.1 hb with hb | hb
      · rw [mem_emit hb]; exact hc
      · exact ih [s] (h1 s) b hb
    · rename_i hf
      exact ih (cur ++ [s]) (hstep cur s hc (by simpa using hf)) b hb

/-! ### `split` against M-Comm -/

def toItem (es : Nat) (s : Sub) : Comm.Item :=
  { tid := s.tid, elems := s.data.length, esize := es, dtype := s.dtype }

def opOf (g : Comm.Key) (es : Nat) (s : Sub) : Comm.Op :=
  .reduceB g s.tid [s.data.length] es s.dtype false

def evOf (g : Comm.Key) (b : List Sub) : Comm.Event :=
  .allreduce g (b.map (·.tid)) ((b.map fun s => s.data.length).sum)

/-- the dict of M-Comm when only group `g` has been used and `cur` is its open bucket -/
def OnlyGroup (g : Comm.Key) (es : Nat) (cur : List Sub) (bs : List (Comm.Key × Option Comm.Bucket)) : Prop :=
  bs = [(g, some { items := cur.map (toItem es) })] ∨ (bs = [] ∧ cur = [])

theorem size_toItem (es : Nat) (cur : List Sub) :
    Comm.Bucket.size { items := cur.map (toItem es) } = bucketBytes es cur := by
  simp [Comm.Bucket.size, bucketBytes, toItem, Function.comp_def]
  rfl

theorem dtype_toItem (es : Nat) (cur : List Sub) :
    Comm.Bucket.dtype? { items := cur.map (toItem es) } = cur.head?.map (·.dtype) := by
  cases cur <;> simp [Comm.Bucket.dtype?, toItem]

theorem emit_toItem (g : Comm.Key) (es : Nat) (cur : List Sub) :
    Comm.emit g { items := cur.map (toItem es) } = (emit cur).map (evOf g) := by
  cases cur with
  | nil => simp [Comm.emit, emit]
  | cons s t => simp [Comm.emit, emit, evOf, toItem, Function.comp_def]

theorem OnlyGroup.curB {g : Comm.Key} {es : Nat} {cur : List Sub} {bs} (h : OnlyGroup g es cur bs) :
    C08.curB g bs = { items := cur.map (toItem es) } := by
  rcases h with h | ⟨h, hc⟩
  · subst h; simp [C08.curB, Comm.lookupB]
  · subst h; subst hc; simp [C08.curB, Comm.lookupB]

theorem OnlyGroup.setB {g : Comm.Key} {es : Nat} {cur : List Sub} {bs} (h : OnlyGroup g es cur bs)
    (v : Option Comm.Bucket) : Comm.setB g v bs = [(g, v)] := by
  rcases h with h | ⟨h, _⟩
  · subst h; simp [Comm.setB]
  · subst h; simp [Comm.setB]

theorem mkItem_eq (es : Nat) (s : Sub) :
    C08.mkItem s.tid [s.data.length] es s.dtype false = toItem es s := by
  simp [C08.mkItem, toItem, Comm.commElems, Comm.numel]

theorem flushNow_toItem (cap es : Nat) (cur : List Sub) (s : Sub) :
    C08.flushNow cap { items := cur.map (toItem es) } (toItem es s) = flushNow cap es cur s := by
  unfold C08.flushNow
  rw [size_toItem, dtype_toItem]
  cases cur <;> rfl

theorem step_onlyGroup (cap es : Nat) (g : Comm.Key) (hg : g.length ≠ 1) (cur : List Sub) (s : Sub) (bs)
    (h : OnlyGroup g es cur bs) :
    Comm.step { cap := cap, buckets := bs } (opOf g es s) =
      if flushNow cap es cur s then
        ({ cap := cap, buckets := [(g, some { items := [s].map (toItem es) })] },
          (emit cur).map (evOf g), .future)
      else
        ({ cap := cap, buckets := [(g, some { items := (cur ++ [s]).map (toItem es) })] }, [], .future) := by
  have hs : C08.shapeOk [s.data.length] false = true := rfl
  unfold opOf Comm.step
  simp only
  rw [C08.arB_accept _ g _ _ _ _ _ hg hs, mkItem_eq]
  unfold C08.stepB C08.addItem
  simp only [h.curB, flushNow_toItem, h.setB, emit_toItem]
  split <;> simp

theorem run_split (cap es : Nat) (g : Comm.Key) (hg : g.length ≠ 1) (subs cur : List Sub) (bs)
    (h : OnlyGroup g es cur bs) :
    (Comm.run { cap := cap, buckets := bs } (subs.map (opOf g es) ++ [Comm.Op.flush])).2
      = (split cap es subs cur).map (evOf g) := by
  induction subs generalizing cur bs with
  | nil =>
    rw [List.map_nil, List.nil_append, C08.run_cons, C08.run_nil, split, (C08.step_flush _).2]
    rcases h with h | ⟨h, hc⟩
    · subst h
      simp [Comm.flush, emit_toItem]
    · subst h; subst hc
      simp [Comm.flush, emit]
  | cons s t ih =>
    rw [List.map_cons, List.cons_append, C08.run_cons, step_onlyGroup cap es g hg cur s bs h, split]
    split
    · simp only [List.map_append]
      rw [ih [s] _ (Or.inl rfl)]
    · simp only [List.nil_append]
      rw [ih (cur ++ [s]) _ (Or.inl rfl)]

/-! ### where a member cuts depends on its requests only

The request stream of a member is `subs.map (toItem es)`; M-Comm computes the cuts from it (`run_split`), so
members with the same requests cut at the same positions. -/

theorem sameShape_toItem (es : Nat) {a b : List Sub} (h : sameShape a b = true) :
    a.map (toItem es) = b.map (toItem es) := by
  simp only [sameShape, Bool.and_eq_true, beq_iff_eq, List.all_eq_true] at h
  obtain ⟨hl, hz⟩ := h
  calc a.map (toItem es) = ((a.zip b).map Prod.fst).map (toItem es) := by rw [List.map_fst_zip (Nat.le_of_eq hl)]
    _ = ((a.zip b).map Prod.snd).map (toItem es) := by
      rw [List.map_map, List.map_map]
      exact List.map_congr_left fun p hp => by
        obtain ⟨⟨h1, h2⟩, h3⟩ := hz p hp
        simp only [Function.comp, toItem, h1, h2, h3]
    _ = b.map (toItem es) := by rw [List.map_snd_zip (Nat.le_of_eq hl.symm)]

/-- the cuts are a function of the request stream: by `run_split` they are the events M-Comm emits for it (on
    any group; `[]` here), and the stream is determined by the `toItem`s -/
theorem split_lengths_congr (cap es : Nat) {a b : List Sub} (h : a.map (toItem es) = b.map (toItem es)) :
    (split cap es a []).map List.length = (split cap es b []).map List.length := by
  have key (c : List Sub) : (split cap es c []).map List.length =
      (Comm.run { cap := cap, buckets := [] }
        ((c.map (toItem es)).map (fun it => Comm.Op.reduceB [] it.tid [it.elems] it.esize it.dtype false)
          ++ [Comm.Op.flush])).2.map fun e => (C08.Event.tids e).length := by
    rw [List.map_map]
    show _ = ((Comm.run _ (c.map (opOf [] es) ++ _)).2).map _
    rw [run_split cap es [] (by decide) c [] [] (Or.inr ⟨rfl, rfl⟩), List.map_map]
    exact List.map_congr_left fun b _ => (List.length_map (as := b) (·.tid)).symm
  rw [key, key, h]

def chunks {α : Type} : List Nat → List α → List (List α)
  | [], _ => []
  | n :: t, l => l.take n :: chunks t (l.drop n)

theorem chunks_flatten {α : Type} (X : List (List α)) : chunks (X.map List.length) X.flatten = X := by
  induction X with
  | nil => rfl
  | cons x t ih =>
    simp only [List.map_cons, List.flatten_cons, chunks, List.take_left', List.drop_left', ih]

theorem split_eq_chunks (cap es : Nat) (a b : List Sub) (h : a.map (toItem es) = b.map (toItem es)) :
    split cap es b [] = chunks ((split cap es a []).map List.length) b := by
  have h1 := chunks_flatten (split cap es b [])
  rw [split_flatten_gen, List.nil_append] at h1
  rw [split_lengths_congr cap es h]
  exact h1.symm

/-- `results` by recursion over the own buckets; `bs` are the bucket lists of all members -/
def resultsRec : List (List Sub) → List (List (List Sub)) → List (Nat × List Int)
  | [], _ => []
  | b :: rest, bs =>
    unflatten b (vsum (bs.map fun x => flatten (x.headD []))) ++ resultsRec rest (bs.map List.tail)

theorem results_rec (mine : List (List Sub)) (bs : List (List (List Sub))) :
    ((List.range mine.length).flatMap fun i =>
      unflatten (mine.getD i []) (vsum (bs.map fun b => flatten (b.getD i [])))) = resultsRec mine bs := by
  induction mine generalizing bs with
  | nil => rfl
  | cons b rest ih =>
    rw [List.length_cons, List.range_succ_eq_map, List.flatMap_cons, List.flatMap_map, resultsRec,
      ← ih (bs.map List.tail)]
    congr 1
    · simp only [← List.headD_eq_getD, List.headD_cons]
    · simp only [Function.comp_def, List.map_map, getD_succ_tail, List.tail_cons]

/-! ### flatten / all-reduce / unflatten of M-CommVal are those of M-Comm -/

def len (s : Sub) : Nat := s.data.length

theorem vsum_eq (vs : List (List Int)) : vsum vs = Comm.sumRanks vs := by
  induction vs with
  | nil => rfl
  | cons v t ih =>
    cases t with
    | nil => rfl
    | cons w t' =>
      show List.zipWith (· + ·) v (vsum (w :: t')) = Comm.vecAdd v (Comm.sumRanks (w :: t'))
      rw [ih]; rfl

theorem flatten_eq (b : List Sub) : flatten b = Comm.flatten (b.map (·.data)) := by
  rw [flatten, Comm.flatten, List.flatMap_def]

theorem flatten_length (b : List Sub) : (flatten b).length = (b.map len).sum := by
  rw [flatten_eq, Comm.flatten, List.length_flatten, List.map_map]; rfl

theorem unflatten_eq_zip (p : List Sub) (flat : List Int) :
    unflatten p flat = (p.map (·.tid)).zip (Comm.unflatten (p.map len) flat) := by
  induction p generalizing flat with
  | nil => rfl
  | cons s t ih => simp only [unflatten, Comm.unflatten, List.map_cons, List.zip_cons_cons, ih, len]

theorem unflatten_append (a b : List Sub) (flat : List Int) :
    unflatten (a ++ b) flat
      = unflatten a (flat.take (a.map len).sum) ++ unflatten b (flat.drop (a.map len).sum) := by
  induction a generalizing flat with
  | nil => rfl
  | cons s t ih =>
    rw [List.cons_append, unflatten, unflatten, ih, List.map_cons, List.sum_cons, show len s = s.data.length from rfl,
      List.take_take, List.drop_take, List.drop_drop, Nat.add_sub_cancel_left,
      Nat.min_eq_left (Nat.le_add_right _ _), List.cons_append]

/-- both sides pair the request ids of `members[m]` with the per-tensor sums over the ranks: the right side by
    `unflatten_eq_zip` and `unflatten_sumRanks` (the whole sequence as one bucket) -/
theorem perTensor_eq_unflatten (members : List (List Sub)) (m : Nat) (hm : m < members.length)
    (hsh : ∀ x ∈ members, x.map len = members[m].map len) :
    perTensor members m = unflatten members[m] (vsum (members.map flatten)) := by
  have hmine : members.getD m [] = members[m] := (List.getElem_eq_getD _).symm
  have htid : members[m].map (·.tid) = (List.range members[m].length).map fun j => (members[m].getD j ⟨0, 0, []⟩).tid := by
    conv_lhs => rw [← range_map_getD members[m] ⟨0, 0, []⟩, List.map_map]
    rfl
  rw [unflatten_eq_zip, vsum_eq, List.map_congr_left fun x _ => flatten_eq x,
    unflatten_sumRanks _ members (List.map (·.data)) fun x hx => (List.map_map ..).trans (hsh x hx),
    List.length_map, htid, List.zip_map']
  unfold perTensor
  simp only [hmine, vsum_eq, List.getD_map _ (⟨0, 0, []⟩ : Sub) Sub.data]

/-! ### bucket by bucket is the same as the whole sequence at once -/

theorem resultsRec_chunks (L : List Nat) (mine : List Sub) (members : List (List Sub))
    (hL : L.sum = mine.length) (hsh : ∀ x ∈ members, x.map len = mine.map len) :
    resultsRec (chunks L mine) (members.map (chunks L)) = unflatten mine (vsum (members.map flatten)) := by
  induction L generalizing mine members with
  | nil =>
    obtain rfl : mine = [] := List.length_eq_zero_iff.1 hL.symm
    rfl
  | cons n t ih =>
    rw [List.sum_cons] at hL
    have ih' := ih (mine.drop n) (members.map (List.drop n)) (by rw [List.length_drop, ← hL, Nat.add_sub_cancel_left])
      (by
        intro y hy
        obtain ⟨x, hxm, rfl⟩ := List.mem_map.1 hy
        rw [List.map_drop, List.map_drop, hsh x hxm])
    -- the entries of the own first `n` tensors are, in every member's flattened sequence, those of its first `n`
    have hk : ∀ x ∈ members, (flatten x).take ((mine.take n).map len).sum = flatten (x.take n) ∧
        (flatten x).drop ((mine.take n).map len).sum = flatten (x.drop n) := fun x hx => by
      have hl : (flatten (x.take n)).length = ((mine.take n).map len).sum := by
        rw [flatten_length, List.map_take, hsh x hx, ← List.map_take]
      rw [← List.take_append_drop n x, flatten, List.flatMap_append, List.take_append_drop]
      exact ⟨List.take_left' hl, List.drop_left' hl⟩
    conv_rhs => rw [← List.take_append_drop n mine, unflatten_append, vsum_eq, take_sumRanks, drop_sumRanks,
      List.map_congr_left fun x hx => (hk x hx).1, List.map_congr_left fun x hx => (hk x hx).2,
      ← vsum_eq, ← vsum_eq]
    simpa [chunks, resultsRec, List.map_map, Function.comp_def] using ih'

theorem map_len_of_toItem {es : Nat} {a b : List Sub} (h : a.map (toItem es) = b.map (toItem es)) :
    a.map len = b.map len := by
  have := congrArg (List.map (·.elems)) h
  rwa [List.map_map, List.map_map] at this

/-- members with the same shapes cut at the same positions, so `results` is the bucket-by-bucket sum -/
theorem results_eq_unflatten (cap es : Nat) (members : List (List Sub)) (m : Nat)
    (hm : m < members.length) (hshp : ∀ x ∈ members, members[m].map (toItem es) = x.map (toItem es)) :
    results cap es members m = unflatten members[m] (vsum (members.map flatten)) := by
  have hbs : (members.map fun subs => split cap es subs [])
      = members.map (chunks ((split cap es members[m] []).map List.length)) :=
    List.map_congr_left fun x hx => split_eq_chunks cap es _ x (hshp x hx)
  have hmine : (members.map (chunks ((split cap es members[m] []).map List.length))).getD m []
      = chunks ((split cap es members[m] []).map List.length) members[m] := by
    simp [List.getD_eq_getElem?_getD, hm]
  unfold results
  simp only
  rw [hbs, hmine, results_rec]
  refine resultsRec_chunks _ _ _ ?_ fun x hx => (map_len_of_toItem (hshp x hx)).symm
  have := congrArg List.length (split_flatten_gen cap es members[m] [])
  simpa using this

end KV.CommVL
