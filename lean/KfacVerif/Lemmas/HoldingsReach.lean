/-
A primitive-step abstraction of M-Precond for C13: every operation of the model is a sequence of
primitive moves (`Prim`): emitting a wait/stall, failing, writing one (rank, layer) cell, issuing a
collective at one of the four issuing sites, bookkeeping (`misc`, `addB`), the slot rewrite of a flush
(`flushMap`) and, for checkpoint loads only, starting afresh (`reset`).  Invariants are then proved once
per primitive.  Core Lean only.
-/
import KfacVerif.Lemmas.PrecondOps

namespace KV.HR
open KV KV.Precond

attribute [simp] isNone_ite_rdVal isNone_ite_rdVal' ranks_ite_rdSt'

def sameSO (x y : LState) : Prop :=
  x.qa.isSome = y.qa.isSome ∧ x.da.isSome = y.da.isSome ∧ x.qg.isSome = y.qg.isSome ∧
  x.dg.isSome = y.dg.isSome ∧ x.dgda.isSome = y.dgda.isSome ∧ x.aInv.isSome = y.aInv.isSome ∧
  x.gInv.isSome = y.gInv.isSome

def monoSO (x y : LState) : Prop :=
  (x.qa.isSome = true → y.qa.isSome = true) ∧ (x.aInv.isSome = true → y.aInv.isSome = true)

theorem sameSO.of_eq {x y : LState}
    (h : (y.qa, y.da, y.qg, y.dg, y.dgda, y.aInv, y.gInv) = (x.qa, x.da, x.qg, x.dg, x.dgda, x.aInv, x.gInv)) :
    sameSO x y := by
  obtain ⟨h1, h2, h3, h4, h5, h6, h7⟩ := by simpa only [Prod.mk.injEq] using h
  exact ⟨h1 ▸ rfl, h2 ▸ rfl, h3 ▸ rfl, h4 ▸ rfl, h5 ▸ rfl, h6 ▸ rfl, h7 ▸ rfl⟩

theorem sameSO.trans {x y z : LState} (h : sameSO x y) (k : sameSO y z) : sameSO x z := by
  obtain ⟨h1, h2, h3, h4, h5, h6, h7⟩ := h
  unfold sameSO
  rw [h1, h2, h3, h4, h5, h6, h7]
  exact k

theorem sameSO.mono {x y : LState} (h : sameSO x y) : monoSO x y :=
  ⟨fun a => h.1 ▸ a, fun a => h.2.2.2.2.2.1 ▸ a⟩

theorem monoSO.trans {x y z : LState} (h : monoSO x y) (k : monoSO y z) : monoSO x z :=
  ⟨k.1 ∘ h.1, k.2 ∘ h.2⟩

theorem monoSO_set (x : LState) (f : Fld) (v : Slot) : monoSO x (x.set f (some v)) := by
  cases f <;> simp [monoSO, LState.set]

/-- the field that a gradient worker is guaranteed to hold after a step -/
def hq (c : Cfg) (x : LState) : Bool :=
  match c.method with
  | .eigen => x.qa.isSome
  | .inverse => x.aInv.isSome

theorem hq_of_mono {c : Cfg} {x y : LState} (h : monoSO x y) (hx : hq c x = true) : hq c y = true := by
  unfold hq at *
  revert hx
  cases c.method
  · exact h.1
  · exact h.2

inductive IssueOK (c : Cfg) (b : List BItem) : List Nat → Desc → Prop
  | flush : b ≠ [] →
      IssueOK c b (worldRanks c) { kind := .allreduce, elems := (b.map (·.elems)).sum, esize := c.fe, root := 0 }
  | red (l : Nat) (isA : Bool) : c.bucketed = false → c.world ≠ 1 → l < c.layers.length →
      IssueOK c b (worldRanks c)
        { kind := .allreduce,
          elems := triElems (if isA then (c.layers.getD l ⟨0, 0⟩).aDim else (c.layers.getD l ⟨0, 0⟩).gDim) c.symAware,
          esize := c.fe, root := 0 }
  | inv (l src elems : Nat) : c.asg.bcastInv = true → (c.asg.workers l).length ≠ 1 →
      (src = c.asg.invA l ∨ src = c.asg.invG l) →
      IssueOK c b (c.asg.workers l) { kind := .broadcast, elems := elems, esize := c.ie, root := src }
  | grad (r0 l : Nat) : c.asg.bcastGrad = true → (c.asg.recv r0).length ≠ 1 → (c.asg.recv r0).head? = some r0 →
      IssueOK c b (c.asg.recv r0)
        { kind := .broadcast, elems := (c.layers.getD l ⟨0, 0⟩).gDim * (c.layers.getD l ⟨0, 0⟩).aDim,
          esize := c.ge, root := c.asg.src r0 l }

/-- `ld`: checkpoint loads allowed: `setL` may then write any cell that keeps `qa`/`aInv` (`monoSO`), on any rank,
    and `reset` may go to any state with the same script and an empty bucket (ranks, steps, err and the rest are
    free).  `bp`: `misc` may move the step counter. -/
inductive Prim (c : Cfg) (ld bp : Bool) : St → St → Prop
  | emit (s : St) (a : GAct) : (∀ m d, a ≠ .issue m d) → Prim c ld bp s (emit s a)
  | fail (s : St) (r : Nat) (w : String) : Prim c ld bp s (Precond.fail s r w)
  | setL (s : St) (r l : Nat) (x : LState) :
      (r ∈ c.asg.workers l ∨ ld = true ∨ sameSO (getL s r l) x) → monoSO (getL s r l) x →
      Prim c ld bp s (Precond.setL s r l x)
  | issue (s : St) (m : List Nat) (d : Desc) : IssueOK c s.bucket m d → Prim c ld bp s (Precond.issue s m d).1
  | misc (s s' : St) : s'.script = s.script → s'.ranks = s.ranks → s'.err = s.err → s'.bucket = s.bucket →
      (bp = false → s'.steps = s.steps) → Prim c ld bp s s'
  | addB (s s' : St) : c.bucketed = true → c.world ≠ 1 → s'.script = s.script → s'.ranks = s.ranks →
      s'.err = s.err → s'.steps = s.steps → Prim c ld bp s s'
  | flushMap (s : St) (b : List BItem) (id : Nat) :
      Prim c ld bp s { s with bucket := [], ranks := s.ranks.map fun ls => ls.map fun x =>
        { x with aFactor := PI.flushFix b id x.aFactor, gFactor := PI.flushFix b id x.gFactor } }
  | reset (s s' : St) : ld = true → s'.script = s.script → s'.bucket = [] → Prim c ld bp s s'

inductive Reach (c : Cfg) (ld bp : Bool) : St → St → Prop
  | refl (s : St) : Reach c ld bp s s
  | tail {s t u : St} : Reach c ld bp s t → Prim c ld bp t u → Reach c ld bp s u

theorem Reach.trans {c ld bp s t u} (h1 : Reach c ld bp s t) (h2 : Reach c ld bp t u) : Reach c ld bp s u := by
  induction h2 with
  | refl => exact h1
  | tail _ p ih => exact ih.tail p

theorem Reach.single {c ld bp s t} (p : Prim c ld bp s t) : Reach c ld bp s t := (Reach.refl s).tail p

theorem Reach.inv {c ld bp} (P : St → Prop) (hP : ∀ t u, Prim c ld bp t u → P t → P u) {s t : St}
    (h : Reach c ld bp s t) (h0 : P s) : P t := by
  induction h with
  | refl => exact h0
  | tail _ p ih => exact hP _ _ p ih

/-- no bucket is ever opened when un-bucketed or alone -/
def NB (c : Cfg) : Prop := c.bucketed = false ∨ c.world = 1

/-- every issue of the script comes from one of the issuing sites, and when no bucket can be open the flush
    site is not among them -/
def BInv (c : Cfg) (s : St) : Prop :=
  (NB c → s.bucket = []) ∧ ∀ m d, GAct.issue m d ∈ s.script → ∃ b, IssueOK c b m d ∧ (NB c → b = [])

theorem BInv.of_script {c} {s t : St} (h : BInv c s) (e : t.script = s.script) (hb : NB c → t.bucket = []) :
    BInv c t :=
  ⟨hb, fun m d hm => h.2 m d (e ▸ hm)⟩

theorem Prim.binv {c ld bp} {s t : St} (p : Prim c ld bp s t) (h : BInv c s) : BInv c t := by
  cases p with
  | emit a ha =>
    exact ⟨h.1, fun m d hm => (List.mem_cons.mp hm).elim (fun e => absurd e.symm (ha m d)) (h.2 m d)⟩
  | fail r w => exact h.of_script (fail_script ..) fun n => (fail_bucket ..).trans (h.1 n)
  | setL r l x _ _ => exact h
  | issue m d hi =>
    refine ⟨h.1, fun m' d' hm => (List.mem_cons.mp hm).elim (fun e => ?_) (h.2 m' d')⟩
    cases e
    exact ⟨_, hi, h.1⟩
  | misc _ h1 _ _ h4 _ => exact h.of_script h1 fun n => h4.trans (h.1 n)
  | addB _ hbk hw h1 _ _ _ => exact h.of_script h1 fun n => (n.elim (by rw [hbk]; nofun) hw).elim
  | flushMap b id => exact h.of_script rfl fun _ => rfl
  | reset _ _ h1 h2 => exact h.of_script h1 fun _ => h2

/-- `y` has the `qa`/`aInv` that `x` has and, on a rank outside the layer's gradient-worker group, the
    second-order signature of `x` -/
def Kept (c : Cfg) (r l : Nat) (x y : LState) : Prop := monoSO x y ∧ (r ∉ c.asg.workers l → sameSO x y)

theorem sameSO.kept {c r l} {x y : LState} (h : sameSO x y) : Kept c r l x y := ⟨h.mono, fun _ => h⟩

theorem Kept.trans {c r l} {x y z : LState} (h : Kept c r l x y) (k : Kept c r l y z) : Kept c r l x z :=
  ⟨h.1.trans k.1, fun hr => (h.2 hr).trans (k.2 hr)⟩

theorem Prim.kept {c bp} {s t : St} (p : Prim c false bp s t) (r l : Nat) : Kept c r l (getL s r l) (getL t r l) := by
  have stay (e : getL t r l = getL s r l) : Kept c r l (getL s r l) (getL t r l) := e ▸ (sameSO.of_eq rfl).kept
  cases p with
  | emit a ha => exact stay rfl
  | fail r' w => exact stay (getL_fail ..)
  | setL r' l' x h1 h2 =>
    rcases getL_setL_cases s r' l' x r l with ⟨e, rfl, rfl⟩ | e
    · rw [e]; exact ⟨h2, fun hr => h1.elim (absurd · hr) fun k => k.elim nofun id⟩
    · exact stay e
  | issue m d _ => exact stay rfl
  | misc _ _ h2 _ _ _ => exact stay (getL_of_ranks h2 r l)
  | addB _ _ _ _ h2 _ _ => exact stay (getL_of_ranks h2 r l)
  | flushMap b i =>
    simp only [getL]
    rw [getD_map_map _ _ rfl]
    exact (sameSO.of_eq rfl).kept
  | reset _ hl _ _ => cases hl

theorem Reach.kept {c bp} {s t : St} (h : Reach c false bp s t) (r l : Nat) : Kept c r l (getL s r l) (getL t r l) :=
  h.inv (fun t => Kept c r l (getL s r l) (getL t r l)) (fun _ _ p ih => ih.trans (p.kept r l))
    (sameSO.of_eq rfl).kept

theorem Prim.frame {c bp} {s t : St} (p : Prim c false bp s t) :
    (Shape c s → Shape c t) ∧ (bp = false → t.steps = s.steps) ∧ (t.err = none → s.err = none) := by
  cases p with
  | emit a ha => exact ⟨(·.of_ranks rfl), fun _ => rfl, id⟩
  | fail r w => exact ⟨(·.of_ranks (fail_ranks ..)), fun _ => fail_steps .., fun h => absurd h (fail_err _ _ _)⟩
  | setL r l x _ _ => exact ⟨(·.setL r l x), fun _ => rfl, id⟩
  | issue m d _ => exact ⟨(·.of_ranks rfl), fun _ => rfl, id⟩
  | misc _ _ h2 h3 _ h5 => exact ⟨(·.of_ranks h2), h5, fun h => h3 ▸ h⟩
  | addB _ _ _ _ h2 h3 h6 => exact ⟨(·.of_ranks h2), fun _ => h6, fun h => h3 ▸ h⟩
  | flushMap b i => exact ⟨(·.map _ rfl), fun _ => rfl, id⟩
  | reset _ hl _ _ => cases hl

theorem Reach.shape {c bp} {s t : St} (h : Reach c false bp s t) (h0 : Shape c s) : Shape c t :=
  h.inv _ (fun _ _ p => p.frame.1) h0

theorem Reach.steps {c} {s t : St} (h : Reach c false false s t) : t.steps = s.steps :=
  h.inv (fun t => t.steps = s.steps) (fun _ _ p e => (p.frame.2.1 rfl).trans e) rfl

theorem Reach.err {c bp} {s t : St} (h : Reach c false bp s t) : t.err = none → s.err = none :=
  h.inv (fun t => t.err = none → s.err = none) (fun _ _ p ih k => ih (p.frame.2.2 k)) id

end KV.HR
