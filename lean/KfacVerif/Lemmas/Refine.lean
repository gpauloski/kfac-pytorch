/-
Refinement of the reference machine (KV.Spec) by the distributed state machine (KV.Precond):
checkpoint round trips, `exec`, `run`, and the refinement theorem.  Core Lean only.
-/
import KfacVerif.Lemmas.RefineStep

namespace KV.Refine
open KV KV.Precond KV.Spec

theorem CellRel.empty (c : Cfg) (r l : Nat) : CellRel c r l (lv {}) {} := by
  refine ⟨rfl, rfl, rfl, rfl, rfl, rfl, fun _ => ?_⟩
  unfold SO
  cases c.method
  · cases c.prediv <;> simp [lv]
  · simp [lv]

theorem empty_rel {c : Cfg} {s : St} {t : SSt} (h1 : s.steps = t.steps) (h2 : s.mini = t.mini)
    (h3 : s.pass = t.pass) (h4 : s.hyper = t.hyper) (h5 : s.defs = t.defs) (ho : s.outGrads = [] ∧ t.out = [])
    (hs : s.ranks = List.replicate c.world (List.replicate c.layers.length {}))
    (ht : t.layers = List.replicate c.layers.length {}) : Rel c s t := by
  refine ⟨⟨h1, h2, h3, h4, h5, fun _ _ => by rw [ho.1, ho.2]; rfl⟩, (Shape.init c s.hyper).of_ranks hs,
    by rw [ht, List.length_replicate], fun l _ => ?_⟩
  rw [getS, ht, getD_replicate_self]
  refine ⟨⟨fun b hb => (by cases hb), fun b hb => (by cases hb)⟩, fun r _ => ?_⟩
  rw [cell, getL, hs, getD_replicate_empty]
  exact CellRel.empty c r l

theorem init_rel (c : Cfg) (h : Hyper) : Rel c (St.init c h) (SSt.init (ofCfg c) h) :=
  empty_rel rfl rfl rfl rfl rfl ⟨rfl, rfl⟩ rfl rfl

theorem fresh_rel {c s t} (h : Rel c s t) : Rel c (freshOf c s s) (slFresh (ofCfg c) t) :=
  empty_rel h.steps rfl h.pass h.hyper h.defs ⟨rfl, rfl⟩ rfl rfl

def gLoad (s : St) (r l : Nat) (v : LV) : LV :=
  { v with aFactor := (cell s r l).aFactor, gFactor := (cell s r l).gFactor }

theorem loadFacs_err (c : Cfg) (s fresh : St) : (loadFacs c s fresh).err = fresh.err :=
  loadFacs_eq c s fresh ▸ mapCells_err ..

theorem loadFacs_eff {c : Cfg} (s : St) {u : St} (hu : Shape c u) :
    Eff c u (loadFacs c s u) (fun r l => r < c.world ∧ l < c.layers.length) (gLoad s) :=
  loadFacs_eq c s u ▸ mapCells_eff hu fun _ _ _ => by simp only [gLoad, lv, cell, sv, strip_val]

theorem loadFacs_rel {c s t} (h : Rel c s t) :
    Rel c (loadFacs c s (freshOf c s s)) (slCopy (ofCfg c) t) := by
  refine (fresh_rel h).mapLayers (loadFacs_eff s (Shape.freshOf c s s))
    (fun l y => { y with aFactor := (getS t l).aFactor, gFactor := (getS t l).gFactor }) fun l hl => ?_
  rw [getS_slFresh]
  refine ⟨⟨fun b hb => (by cases hb), fun b hb => (by cases hb)⟩, fun r hr => ?_⟩
  rw [cell, getL_freshOf, gLoad, ((h.lay l hl).2 r hr).aFactor, ((h.lay l hl).2 r hr).gFactor]
  exact ((CellRel.empty c r l).urPut true (getS t l).aFactor).urPut false (getS t l).gFactor

theorem invAll_ok1 {c d t l} (he : OK (invAll c d t l)) :
    OK (forRanks c t fun t r => computeGInv c (computeAInv c t r l d) r l d) :=
  ite_ok (fun h => broadcastAInv_ok (broadcastGInv_ok h)) he

theorem invAll_ok {c d t l} (he : OK (invAll c d t l)) : OK t :=
  foldl_mono OK _ (fun _ _ h => compBoth_ok h) _ _ (invAll_ok1 he)

theorem invAll_rel {c u t} (hc : CfgOK2 c) (h : Rel c u t) {l : Nat} (hl : l < c.layers.length) (d : Rat)
    (he : OK (invAll c d u l)) :
    Rel c (invAll c d u l) (Spec.refresh (ofCfg c) t l d) := by
  obtain ⟨ha, hg, haw, hgw⟩ := hc.inv_workers l
  have hC := (h.lay l hl).2
  -- every rank recomputes from its own factors and so holds the refreshed data already
  have e1 := forRanks_eff OK (fun t r => computeGInv c (computeAInv c t r l d) r l d) l
    (fun _ _ v => gCG c.method c.prediv d (gCA c.method d v)) u (fun _ _ hk => compBoth_ok hk)
    (fun _ _ _ hr e hk => compBoth_eff e.shape hr hl d hk) h.shape (invAll_ok1 he)
  unfold invAll at he ⊢
  simp only [] at he ⊢
  generalize (forRanks c u fun t r => computeGInv c (computeAInv c t r l d) r l d) = s1 at *
  have c1 : ∀ r, r < c.world → cell s1 r l = gCG c.method c.prediv d (gCA c.method d (cell u r l)) :=
    fun _ => e1.on
  have o1' := e1.sOnly (fun _ _ _ => (base_gCG ..).trans (base_gCA ..))
  have f1 : ∀ r, r < c.world → SOA c.method c.prediv (cell s1 r l) (rfL (ofCfg c) d (getS t l)) ∧
      SOG c.method c.prediv (cell s1 r l) (rfL (ofCfg c) d (getS t l)) := fun r hr =>
    c1 r hr ▸ compBoth_so (ofCfg c) d (hC r hr).aFactor (hC r hr).gFactor
  cases hb : c.asg.bcastInv <;> simp only [hb, Bool.false_eq_true, if_false, if_true] at he ⊢
  · exact h.refresh hl d o1' fun r hr _ => .of (f1 r hr).1 (f1 r hr).2
  · have e2 := broadcastAInv_eff e1.shape hl (hc.workers_lt l) ha
      (by rw [c1 _ haw]; exact holdsA_gCG _ _ _ _ (holdsA_gCA _ _ _ _)) (broadcastGInv_ok he)
    have e3 := broadcastGInv_eff e2.shape hl (hc.workers_lt l) hg
      (by rw [e2.on hg, c1 _ hgw]; exact holdsG_bcA _ _ _ _ (holdsG_gCG _ _ _ _)) he
    refine h.refresh hl d
      ((o1'.trans (e2.sOnly (fun _ _ _ => base_bcA ..))).trans
        (e3.sOnly (fun _ _ _ => base_bcG ..)))
      (fun r hr hw => ?_)
    -- both broadcasts keep what they do not send: the `A` part comes from `invA`, the `G` part from `invG`
    rw [e3.on hw, e2.on hw, e2.on hg]
    exact .of (f1 _ haw).1.bcA.bcG (f1 _ hgw).2.bcA.bcG

theorem saveLoad_rel {c s t} (hc : CfgOK2 c) (h : Rel c s t) (inclF compInv : Bool)
    (he : OK (Precond.saveLoad c s inclF compInv)) :
    Rel c (Precond.saveLoad c s inclF compInv) (Spec.saveLoad (ofCfg c) t inclF compInv) := by
  rw [PF.saveLoad_is_loadInto, loadInto_eq] at he ⊢
  rw [Spec.saveLoad_eq]
  have h' := h.neutral (saveState_neutral h.shape inclF)
  generalize saveState c s inclF = s' at *
  cases inclF
  · exact fresh_rel h'
  · simp only [Bool.not_true, Bool.false_eq_true, if_false] at he ⊢
    have h2 := loadFacs_rel h'
    cases compInv
    · exact h2
    · simp only [Bool.not_true, Bool.false_eq_true, if_false] at he ⊢
      rw [← h2.steps, ← h2.hyper]
      generalize loadFacs c s' (freshOf c s' s') = s2 at *
      generalize slCopy (ofCfg c) t = t2 at *
      exact foldl_rel (Rel c) (invAll c (s2.hyper.damping.val s2.steps))
        (fun u l => Spec.refresh (ofCfg c) u l (s2.hyper.damping.val s2.steps)) (layerIdxs c)
        (fun s l => invAll_ok)
        (fun s t l hl h he => invAll_rel hc h (mem_layerIdxs.mp hl) _ he) s2 t2 h2 he

theorem Rel.setHyper {c s t} (h : Rel c s t) (hy : Hyper) :
    Rel c { s with hyper := hy } { t with hyper := hy } :=
  { h with hyper := rfl, shape := h.shape.of_ranks rfl }

theorem exec_ok {c s op} (he : OK (Precond.exec c s op)) : OK s := by
  unfold Precond.exec at he
  split at he
  · exact he
  · rename_i h
    cases hs : s.err with
    | none => exact hs
    | some x => rw [hs] at h; simp at h

theorem exec_rel {c s t} (hc : CfgOK2 c) (h : Rel c s t) (op : Op) (he : OK (Precond.exec c s op)) :
    Rel c (Precond.exec c s op) (Spec.exec (ofCfg c) t op) := by
  have hs := exec_ok he
  unfold Precond.exec at he ⊢
  have hn : ¬ (s.err.isSome = true) := by rw [hs]; simp
  rw [if_neg hn] at he ⊢
  cases op with
  | fwdBwd tr => exact fwdBwd_rel hc.world_pos h tr he
  | step => exact stepAll_rel hc h he
  | resetBatch => exact resetBatch_rel h
  | memUsage => exact h.neutral (memUsage_neutral h.shape)
  | save f => exact h.neutral (saveState_neutral h.shape f)
  | saveLoad f ci => exact saveLoad_rel hc h f ci he
  | setHyper hy => exact h.setHyper hy

theorem run_ok {c ops s} (he : OK (Precond.run c s ops)) : OK s := by
  unfold Precond.run at he
  exact foldl_mono OK _ (fun s op => exec_ok) _ _ he

theorem run_rel {c s t} (hc : CfgOK2 c) (h : Rel c s t) (ops : List Op) (he : OK (Precond.run c s ops)) :
    Rel c (Precond.run c s ops) (Spec.run (ofCfg c) t ops) :=
  foldl_rel (Rel c) (Precond.exec c) (Spec.exec (ofCfg c)) ops (fun _ _ => exec_ok)
    (fun _ _ op _ h he => exec_rel hc h op he) s t h he

/-- For every configuration that `CfgOK2` admits, every hyper-parameter schedule and every history on which
    the real code raises no exception, every rank of the distributed machine ends with the step count, the
    registered factor values, the factors and the gradients of the reference machine. -/
theorem refines (c : Cfg) (hc : CfgOK2 c) (h : Hyper) (ops : List Op)
    (hne : (Precond.run c (St.init c h) ops).err = none) :
    let s := Precond.run c (St.init c h) ops
    let t := Spec.run (ofCfg c) (SSt.init (ofCfg c) h) ops
    s.steps = t.steps ∧ s.defs = t.defs ∧
    (∀ r, r < c.world → s.outGrads.getD r [] = t.out) ∧
    (∀ r l, r < c.world → l < c.layers.length →
      ((getL s r l).aFactor.map (·.val)) = (getS t l).aFactor ∧
      ((getL s r l).gFactor.map (·.val)) = (getS t l).gFactor) := by
  have hrel := run_rel hc (init_rel c h) ops hne
  refine ⟨hrel.steps, hrel.defs, hrel.out, fun r l hr hl => ?_⟩
  have cr := (hrel.lay l hl).2 r hr
  exact ⟨cr.aFactor, cr.gFactor⟩

theorem CfgOK2.bucket_sym {c : Cfg} (hc : CfgOK2 c) (bucketed sym : Bool) (cap : Nat) :
    CfgOK2 { c with bucketed := bucketed, cap := cap, symAware := sym } :=
  { hc with }

theorem ofCfg_bucket_sym (c : Cfg) (bucketed sym : Bool) (cap : Nat) :
    ofCfg { c with bucketed := bucketed, cap := cap, symAware := sym } = ofCfg c := rfl

theorem out_eq_spec (c : Cfg) (hc : CfgOK2 c) (h : Hyper) (ops : List Op)
    (hne : (Precond.run c (St.init c h) ops).err = none) {r : Nat} (hr : r < c.world) :
    (Precond.run c (St.init c h) ops).outGrads.getD r [] =
      (Spec.run (ofCfg c) (SSt.init (ofCfg c) h) ops).out :=
  (refines c hc h ops hne).2.2.1 r hr

theorem ranks_agree (c : Cfg) (hc : CfgOK2 c) (h : Hyper) (ops : List Op)
    (hne : (Precond.run c (St.init c h) ops).err = none) {r r' : Nat} (hr : r < c.world) (hr' : r' < c.world) :
    (Precond.run c (St.init c h) ops).outGrads.getD r [] = (Precond.run c (St.init c h) ops).outGrads.getD r' [] :=
  (out_eq_spec c hc h ops hne hr).trans (out_eq_spec c hc h ops hne hr').symm

theorem placement_irrelevant (c₁ c₂ : Cfg) (h₁ : CfgOK2 c₁) (h₂ : CfgOK2 c₂)
    (hs : ofCfg c₁ = ofCfg c₂) (h : Hyper) (ops : List Op)
    (e₁ : (Precond.run c₁ (St.init c₁ h) ops).err = none) (e₂ : (Precond.run c₂ (St.init c₂ h) ops).err = none)
    {r r' : Nat} (hr : r < c₁.world) (hr' : r' < c₂.world) :
    (Precond.run c₁ (St.init c₁ h) ops).outGrads.getD r [] = (Precond.run c₂ (St.init c₂ h) ops).outGrads.getD r' [] := by
  rw [out_eq_spec c₁ h₁ h ops e₁ hr, out_eq_spec c₂ h₂ h ops e₂ hr', hs]

end KV.Refine
