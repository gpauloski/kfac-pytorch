/-
Positional arithmetic: `a * n + b` with `b < n` has high digit `a` and low digit `b`.  The feature and
patch-row indices of M-Layout, the k×p KAISA grid and the pipe×data×model GPT-NeoX topology are all
two or three such digits.  The low digit is core's `Nat.mul_add_mod_of_lt : c < b → (a * b + c) % b = c`, and the
way back from a number to its digits is core's `Nat.div_add_mod' r n : r / n * n + r % n = r`.  Core Lean only.
-/

namespace KV.Radix

theorem lt {m n a b : Nat} (ha : a < m) (hb : b < n) : a * n + b < m * n :=
  calc a * n + b < (a + 1) * n := by rw [Nat.succ_mul]; omega
    _ ≤ m * n := Nat.mul_le_mul_right _ ha

theorem div {n a b : Nat} (hb : b < n) : (a * n + b) / n = a := by
  rw [Nat.add_comm, Nat.add_mul_div_right _ _ (by omega), Nat.div_eq_of_lt hb, Nat.zero_add]

theorem div_lt {m n r : Nat} (h : r < m * n) : r / n < m :=
  Nat.div_lt_of_lt_mul (Nat.mul_comm m n ▸ h)

/-! Three digits `(a, b, c)` with `b < m`, `c < n`: the number is `(a * m + b) * n + c`. -/

theorem decode3 {m n b c : Nat} (a : Nat) (hb : b < m) (hc : c < n) :
    ((a * m + b) * n + c) / (m * n) = a ∧ ((a * m + b) * n + c) / n % m = b ∧
      ((a * m + b) * n + c) % n = c := by
  rw [Nat.mul_comm m n, ← Nat.div_div_eq_div_mul, div hc, div hb, Nat.mul_add_mod_of_lt hb, Nat.mul_add_mod_of_lt hc]
  exact ⟨rfl, rfl, rfl⟩

theorem encode3 (r m n : Nat) : (r / (m * n) * m + r / n % m) * n + r % n = r := by
  rw [Nat.mul_comm m n, ← Nat.div_div_eq_div_mul, Nat.div_add_mod', Nat.div_add_mod']

end KV.Radix
