/-
Helpers for C20 (trace table, KV.Trace of Model/Misc.lean).  The table is a dict and `record` a dict update
(`record_eq`), so its facts come from Lemmas/Assoc.lean; the wrapper's clock arithmetic for re-entrant calls
is related to the clock-free specification by the abstraction `absN`.
-/
import KfacVerif.Model.Misc
import KfacVerif.Lemmas.Assoc
import Mathlib.Tactic.Ring

namespace KV.C20
open KV KV.Trace

def samples (t : Table) (name : String) : List Rat := (assocGet? name t).getD []

def KeysNodup (t : Table) : Prop := (t.map (·.1)).Nodup

def isClear : Op → Bool | .clear => true | _ => false

/-- the operations after the last `clear` -/
def since (ops : List Op) : List Op := (ops.reverse.takeWhile (fun o => !isClear o)).reverse

/-- `record` is a dict update: `t ++ [(name, [dt])]` is what `assocSet` does for a new key -/
theorem record_eq (t : Table) (name : String) (dt : Rat) :
    record t name dt = AL.set name (samples t name ++ [dt]) t := by
  unfold samples record
  rw [assocGet?_eq]
  cases h : AL.get name t with
  | some l => exact assocSet_eq ..
  | none => exact (AL.set_of_get_none _ h).symm

theorem samples_nil (name : String) : samples [] name = [] := rfl

def Inv (t : Table) : Prop := KeysNodup t ∧ ∀ p ∈ t, p.2 ≠ []

theorem inv_nil : Inv [] := ⟨List.nodup_nil, fun _ hp => nomatch hp⟩

theorem inv_record (t : Table) (name : String) (dt : Rat) (h : Inv t) : Inv (record t name dt) := by
  rw [record_eq]
  refine ⟨AL.nodup_keys_set h.1, fun p hp => ?_⟩
  rcases AL.mem_set hp with h1 | rfl
  · exact h.2 p h1
  · exact List.append_ne_nil_of_right_ne_nil _ (List.cons_ne_nil _ _)

theorem inv_step (t : Table) (o : Op) (h : Inv t) : Inv (step t o) := by
  cases o with
  | clear => exact inv_nil
  | call n dt r =>
    cases r with
    | true => exact h
    | false => exact inv_record t n dt h

theorem run_append_singleton (t : Table) (ops : List Op) (o : Op) :
    run t (ops ++ [o]) = step (run t ops) o := by
  simp [run, List.foldl_append]

theorem since_append_singleton (ops : List Op) (o : Op) :
    since (ops ++ [o]) = if isClear o then [] else since ops ++ [o] := by
  unfold since
  cases h : isClear o <;> simp [h]

theorem window_pos (l : List Rat) (m : Nat) (hm : 1 ≤ m) :
    window (some (m : Int)) l = l.drop (l.length - min m l.length) := by
  show (if (l.length : Int) > (m : Int) then _ else l) = _
  by_cases h : m < l.length
  · rw [if_pos (Int.ofNat_lt.2 h), if_pos (Int.natCast_pos.2 hm), Int.toNat_natCast, Nat.min_eq_left h.le]
  · rw [if_neg (fun hc => h (Int.ofNat_lt.1 hc)), Nat.min_eq_right (Nat.le_of_not_lt h), Nat.sub_self,
      List.drop_zero]

theorem stat_eq_window (avg : Bool) (mh : Option Int) (l : List Rat) :
    stat avg mh l = stat avg none (window mh l) := rfl

/-- the abstraction from the implementation's state to the specification's: a start reading `t0`
    seen at clock `now` means `now - t0` has elapsed -/
def absN (s : NState) : SState :=
  { stack := s.stack.map fun (n, t0) => (n, s.now - t0), table := s.table }

theorem absN_step (s : NState) (e : Ev) : absN (nstep s e) = sstep (absN s) e := by
  cases e with
  | enter n => simp [nstep, sstep, absN]
  | leave =>
    cases hs : s.stack with
    | nil => simp [nstep, sstep, absN, hs]
    | cons f rest => obtain ⟨n, t0⟩ := f; simp [nstep, sstep, absN, hs]
  | tick dt =>
    simp only [nstep, sstep, absN, List.map_map, SState.mk.injEq, and_true]
    apply List.map_congr_left
    intro ⟨n, t0⟩ _
    simp only [Function.comp, Prod.mk.injEq, true_and]
    ring

theorem absN_run (evs : List Ev) (s : NState) : absN (nrun s evs) = srun (absN s) evs := by
  induction evs generalizing s with
  | nil => rfl
  | cons e t ih => simp only [nrun, srun, List.foldl_cons] at *; rw [ih, absN_step]

end KV.C20
