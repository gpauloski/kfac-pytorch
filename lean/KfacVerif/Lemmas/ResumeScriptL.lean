/-
Why `resume_same_script` (Props/C11.lean) holds for bucketed runs too.
The running communicator at a step boundary is `[(k1, none), (k2, none), …]` (keys in first-use order), the fresh
one is `[]`.  Both behave alike until the next factor-update iteration (`flush` emits nothing); during that
iteration they agree on the content of every bucket (`Weq`); after it both key lists are the canonical one
(`canon c`: first-use order of one iteration, which depends on the configuration only), hence the two
communicators are equal.  All of it is one relation `Ph` between the two communicators, respected by the three
kinds of blocks the operations are made of: collectives only, `flush`, one iteration (`iterI`).
-/
import KfacVerif.Lemmas.NeoxScriptL

namespace KV.C11S
open KV KV.Neox KV.NeoxS
open KV.C08 (Buckets eff eff_setB_self eff_setB_ne curB_eff eff_allnone)

/-- equal up to the key lists: same capacity, same pending content under every key (absent = emptied bucket) -/
def Weq (a b : Comm.CState) : Prop := a.cap = b.cap ∧ ∀ k, eff k a.buckets = eff k b.buckets

/-- at a key both have, the effective content is the content -/
theorem Weq.eq {a b : Comm.CState} (h : Weq a b) (hk : a.buckets.map (·.1) = b.buckets.map (·.1))
    (hnd : (a.buckets.map (·.1)).Nodup) : a = b := by
  obtain ⟨ca, ba⟩ := a
  obtain ⟨cb, bb⟩ := b
  obtain rfl : ca = cb := h.1
  refine congrArg _ (AL.ext hk hnd fun k hkm => ?_)
  obtain ⟨v, hv⟩ := AL.get_isSome hkm
  obtain ⟨v', hv'⟩ := AL.get_isSome (hk ▸ hkm)
  have := h.2 k
  rw [eff, eff, Comm.lookupB_eq, Comm.lookupB_eq, hv, hv'] at this
  rw [hv, hv']
  exact congrArg some this

theorem stepB_Weq (a b : Comm.CState) (g : Comm.Key) (it : Comm.Item) (h : Weq a b) :
    Weq (KV.C08.stepB a g it).1 (KV.C08.stepB b g it).1 ∧ (KV.C08.stepB a g it).2 = (KV.C08.stepB b g it).2 := by
  obtain ⟨hc, he⟩ := h
  have hcur : KV.C08.curB g a.buckets = KV.C08.curB g b.buckets := by rw [curB_eff, curB_eff, he g]
  unfold KV.C08.stepB
  rw [hcur, hc]
  have hset : ∀ v k, eff k (Comm.setB g v a.buckets) = eff k (Comm.setB g v b.buckets) := fun v k => by
    by_cases hk : g = k
    · subst hk; rw [eff_setB_self, eff_setB_self]
    · rw [eff_setB_ne _ _ _ _ hk, eff_setB_ne _ _ _ _ hk, he k]
  exact ⟨⟨rfl, hset _⟩, rfl⟩

theorem req_Weq (c : NeoxS.Cfg) (a b : Comm.CState) (g : Comm.Key) (tid n : Nat) (h : Weq a b) :
    Weq (req c a g tid n).1 (req c b g tid n).1 ∧ (req c a g tid n).2 = (req c b g tid n).2 := by
  rcases req_cases c g tid n with ⟨_, e⟩ | ⟨_, _, e⟩ | ⟨_, _, e⟩ <;> rw [e, e]
  · exact ⟨h, rfl⟩
  · exact stepB_Weq a b g _ h
  · exact ⟨h, rfl⟩

/-- the bucket key an instruction touches, if it touches one (a bucketed reduction over more than one rank) -/
def keysOf (c : NeoxS.Cfg) : Ins → List Comm.Key
  | .red g _ => if g.length = 1 then [] else if c.bucketed then [g] else []
  | _ => []

variable {c : NeoxS.Cfg}

theorem keys_exec (s : St) (i : Ins) : (exec c s i).comm.cap = s.comm.cap ∧
    (exec c s i).comm.buckets.map (·.1) = (keysOf c i).foldl AL.ins (s.comm.buckets.map (·.1)) := by
  cases i with
  | emit a => exact ⟨rfl, rfl⟩
  | flush => exact KV.C08.keys_flush s.comm
  | red g n =>
    rw [exec, reduceFactor_eq]
    rcases req_cases c g s.tid n with ⟨h1, e⟩ | ⟨h1, hb, e⟩ | ⟨h1, hb, e⟩ <;> rw [e, keysOf]
    · rw [if_pos h1]
      exact ⟨rfl, rfl⟩
    · obtain ⟨b, evs, e', _⟩ := stepB_shape s.comm g (KV.C08.mkItem s.tid [n, n] c.esize 0 c.sym)
      rw [e', if_neg h1, if_pos hb]
      exact ⟨rfl, Comm.setB_eq .. ▸ AL.keys_set ..⟩
    · rw [if_neg h1, hb]
      exact ⟨rfl, rfl⟩

theorem keys_execs : ∀ (is : List Ins) (s : St), (execs c s is).comm.cap = s.comm.cap ∧
    (execs c s is).comm.buckets.map (·.1) = (is.flatMap (keysOf c)).foldl AL.ins (s.comm.buckets.map (·.1))
  | [], _ => ⟨rfl, rfl⟩
  | i :: is, s => by
    obtain ⟨h1, h2⟩ := keys_execs is (exec c s i)
    obtain ⟨e1, e2⟩ := keys_exec (c := c) s i
    rw [execs_cons, List.flatMap_cons, List.foldl_append, ← e2]
    exact ⟨h1.trans e1, h2⟩

/-- the keys of one factor-update iteration in first-use order: where every key list ends up, whatever it was -/
def canon (c : NeoxS.Cfg) : List Comm.Key := ((iterI c).flatMap (keysOf c)).foldl AL.ins []

/-- the communicator of every state of a run without checkpoints -/
def RI (c : NeoxS.Cfg) (a : Comm.CState) : Prop :=
  a.cap = c.cap ∧ (a.buckets.map (·.1) = [] ∨ a.buckets.map (·.1) = canon c)

theorem RI.iter {s : St} (h : RI c s.comm) :
    (execs c s (iterI c)).comm.buckets.map (·.1) = canon c ∧ RI c (execs c s (iterI c)).comm := by
  obtain ⟨h1, h2⟩ := keys_execs (c := c) (iterI c) s
  have : (execs c s (iterI c)).comm.buckets.map (·.1) = canon c := by
    rw [h2]
    rcases h.2 with e | e <;> rw [e]
    · rfl
    · exact AL.foldl_ins_idem _
  exact ⟨this, h1.trans h.1, .inr this⟩

theorem RI.flush {a : Comm.CState} (h : RI c a) : RI c (Comm.flush a).1 := by
  unfold RI
  rw [(KV.C08.keys_flush a).1, (KV.C08.keys_flush a).2]
  exact h

/-- the runs agree on what decides the next collectives (the three counters); their communicators are `R`-related -/
def SimR (R : Comm.CState → Comm.CState → Prop) (s s' : St) : Prop :=
  s.steps = s'.steps ∧ s.mini = s'.mini ∧ s.tid = s'.tid ∧ R s.comm s'.comm

/-- `f` keeps `R` and appends the same collectives to both runs -/
def UniR (R : Comm.CState → Comm.CState → Prop) (f : St → St) : Prop :=
  ∀ s s', SimR R s s' → SimR R (f s) (f s') ∧
    ∃ extra, (f s).acts = s.acts ++ extra ∧ (f s').acts = s'.acts ++ extra

variable {R : Comm.CState → Comm.CState → Prop}

theorem UniR.id : UniR R (fun s => s) := fun _ _ h => ⟨h, [], by simp, by simp⟩

theorem UniR.comp {f g : St → St} (hf : UniR R f) (hg : UniR R g) : UniR R (fun s => g (f s)) := by
  intro s s' h
  obtain ⟨h1, e1, a1, b1⟩ := hf s s' h
  obtain ⟨h2, e2, a2, b2⟩ := hg _ _ h1
  exact ⟨h2, e1 ++ e2, by rw [a2, a1, List.append_assoc], by rw [b2, b1, List.append_assoc]⟩

theorem UniR.foldl {α : Type} {f : St → α → St} : ∀ {l : List α}, (∀ x ∈ l, UniR R (f · x)) → UniR R (l.foldl f ·)
  | [], _ => UniR.id
  | x :: _, h => UniR.comp (h x List.mem_cons_self) (UniR.foldl fun y hy => h y (List.mem_cons_of_mem _ hy))

theorem UniR.cons {i : Ins} {is : List Ins} (hi : UniR R (exec c · i)) (his : UniR R (C11S.execs c · is)) :
    UniR R (C11S.execs c · (i :: is)) :=
  UniR.comp hi his

theorem UniR.append {a b : List Ins} (ha : UniR R (C11S.execs c · a)) (hb : UniR R (C11S.execs c · b)) :
    UniR R (C11S.execs c · (a ++ b)) := by
  simp only [execs_append]
  exact UniR.comp ha hb

theorem UniR.emit (a : NAct) : UniR R (exec c · (.emit a)) := fun _ _ hs => ⟨hs, [a], rfl, rfl⟩

theorem UniR.emits {is : List Ins} (h : ∀ i ∈ is, ∃ a, i = .emit a) : UniR R (C11S.execs c · is) :=
  UniR.foldl fun i hi => by
    obtain ⟨a, rfl⟩ := h i hi
    exact UniR.emit a

theorem UniR.eq (is : List Ins) : UniR Eq (C11S.execs c · is) := by
  refine UniR.foldl fun i _ s s' h => ?_
  obtain ⟨st, mi, ti, ke, co, ac⟩ := s
  obtain ⟨st', mi', ti', ke', co', ac'⟩ := s'
  obtain ⟨h1, h2, h3, h4⟩ := h
  subst h1 h2 h3 h4
  cases i <;> exact ⟨⟨rfl, rfl, rfl, rfl⟩, _, rfl, rfl⟩

theorem UniR.red_Weq (g : List Nat) (n : Nat) : UniR Weq (exec c · (.red g n)) := by
  intro s s' ⟨h1, h2, h3, h4⟩
  obtain ⟨w, e⟩ := req_Weq c s.comm s'.comm g s.tid n h4
  simp only [exec, reduceFactor_eq, ← h3]
  exact ⟨⟨h1, h2, rfl, w⟩, _, rfl, by rw [e]⟩

/-- running communicator `a` against resumed `b`: equal, or `a` holds only emptied buckets and `b` is still fresh -/
def Ph (c : NeoxS.Cfg) (a b : Comm.CState) : Prop :=
  RI c a ∧ (a = b ∨ ((∀ e ∈ a.buckets, e.2 = none) ∧ b = { cap := c.cap, buckets := [] }))

theorem Ph.flush : UniR (Ph c) (exec c · .flush) := by
  intro s s' ⟨h1, h2, h3, hri, h4⟩
  rcases h4 with h4 | ⟨hn, hb⟩
  · obtain ⟨⟨e1, e2, e3, e4⟩, ex⟩ := UniR.eq (c := c) [.flush] s s' ⟨h1, h2, h3, h4⟩
    exact ⟨⟨e1, e2, e3, hri.flush, .inl e4⟩, ex⟩
  · have ea : Comm.flush s.comm = (s.comm, []) := KV.C08.flush_of_allnone _ hn
    have eb : Comm.flush s'.comm = (s'.comm, []) := by rw [hb]; rfl
    simp only [exec, NeoxS.flush, ea, eb]
    exact ⟨⟨h1, h2, h3, hri, .inr ⟨hn, hb⟩⟩, [], by simp, by simp⟩

theorem Ph.iter : UniR (Ph c) (execs c · (iterI c)) := by
  intro s s' ⟨h1, h2, h3, hri, h4⟩
  have hri' := hri.iter
  rcases h4 with h4 | ⟨hn, hb⟩
  · obtain ⟨⟨e1, e2, e3, e4⟩, ex⟩ := UniR.eq (c := c) (iterI c) s s' ⟨h1, h2, h3, h4⟩
    exact ⟨⟨e1, e2, e3, hri'.2, .inl e4⟩, ex⟩
  · have hw : SimR Weq s s' := ⟨h1, h2, h3, by rw [hb]; exact ⟨hri.1, fun k => eff_allnone k _ hn⟩⟩
    have hW : UniR Weq (execs c · (iterI c)) := UniR.foldl
      (iterI_forall (fun _ _ _ _ _ _ => UniR.emit _)
        (fun p _ l => ⟨UniR.red_Weq _ _, UniR.red_Weq _ _⟩))
    obtain ⟨⟨e1, e2, e3, he⟩, ex⟩ := hW s s' hw
    have k2 := (RI.iter (c := c) (s := s') ⟨by rw [hb], .inl (by rw [hb]; rfl)⟩).1
    exact ⟨⟨e1, e2, e3, hri'.2,
      .inl (he.eq (hri'.1.trans k2.symm) (hri'.1 ▸ AL.nodup_foldl_ins _ List.nodup_nil))⟩, ex⟩

theorem Ph.trainProg (mini : Nat) : UniR (Ph c) (execs c · (trainProg c mini)) := by
  unfold C11S.trainProg
  split
  · exact Ph.iter
  · exact UniR.emits fun i hi => (trainI_false_gathers i hi).imp fun _ h => h.1

theorem Ph.stepProg (steps : Nat) : UniR (Ph c) (execs c · (stepProg c steps)) := by
  unfold C11S.stepProg
  refine .append ?_ (.cons Ph.flush (.cons Ph.flush (.append (UniR.emits precondAllI_emits) (.cons Ph.flush .id))))
  split
  · exact Ph.iter
  · exact .id

theorem Ph.apply {op : Op} (hop : op.isCkpt = false) : UniR (Ph c) (NeoxS.apply c · op) := by
  intro s s' h
  cases op with
  | train =>
    simp only [NeoxS.apply, trainPass_eq, ← h.1, ← h.2.1]
    split
    · exact UniR.id s s' h
    · obtain ⟨⟨h1, _, h3, h4⟩, ex⟩ := Ph.trainProg s.mini s s' h
      exact ⟨⟨h1, rfl, h3, h4⟩, ex⟩
  | step =>
    simp only [NeoxS.apply, stepOp_eq, ← h.1]
    obtain ⟨⟨_, _, h3, h4⟩, ex⟩ := Ph.stepProg s.steps s s' h
    exact ⟨⟨rfl, rfl, h3, h4⟩, ex⟩
  | save | load => cases hop

theorem Ph.ops (ops : List Op) (h : ∀ op ∈ ops, op.isCkpt = false) :
    UniR (Ph c) (fun s => ops.foldl (NeoxS.apply c) s) :=
  UniR.foldl fun op hop => Ph.apply (h op hop)

/-- every run without checkpoints is related to itself: its communicator satisfies `RI` -/
theorem RI_run (c : NeoxS.Cfg) (ops : List Op) (h : ∀ op ∈ ops, op.isCkpt = false) : RI c (run c ops).comm :=
  (Ph.ops ops h (St.init c) (St.init c) ⟨rfl, rfl, rfl, ⟨rfl, .inl rfl⟩, .inl rfl⟩).1.2.2.2.1

theorem resume_same_script_state (c : NeoxS.Cfg) (s : St) (dir : Bool) (ops : List Op)
    (hri : RI c s.comm) (hn : ∀ e ∈ s.comm.buckets, e.2 = none) (hm : s.mini = 0)
    (h : ∀ op ∈ ops, op.isCkpt = false) :
    ∃ ck, (loadOp c dir true (saveOp c dir s)).acts = s.acts ++ ck ∧
      (ops.foldl (apply c) (loadOp c dir true (saveOp c dir s))).acts =
        s.acts ++ ck ++ ((ops.foldl (apply c) s).acts.drop s.acts.length) := by
  have hsim : SimR (Ph c) s (loadOp c dir true (saveOp c dir s)) := by
    refine ⟨?_, hm, ?_, hri, .inr ⟨hn, ?_⟩⟩ <;> cases dir <;> rfl
  obtain ⟨ck, hck⟩ : ∃ ck, (loadOp c dir true (saveOp c dir s)).acts = s.acts ++ ck := by
    cases dir
    · exact ⟨_, (List.append_assoc ..).trans (List.append_assoc ..)⟩
    · exact ⟨_, rfl⟩
  obtain ⟨_, extra, a, b⟩ := Ph.ops ops h s _ hsim
  refine ⟨ck, hck, ?_⟩
  rw [b, a, hck, List.drop_left]

end KV.C11S
