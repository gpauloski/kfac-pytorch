/-
C20 — tracing is transparent and its statistics are exact.
Model: KV.Trace (record / window / stat / getTrace / step / run / tracedCall) = kfac/tracing.py.
-/
import KfacVerif.Lemmas.Trace
import Mathlib.Data.List.Induction

namespace KV.C20
open KV KV.Trace

/-- **transparent**: the wrapper hands the function's outcome (value or exception) through unchanged -/
theorem transparent {α ε : Type} (t : Table) (name : String) (dt : Rat) (o : Outcome α ε) :
    (tracedCall t name dt o).2 = o := by
  cases o <;> rfl

/-- a returning call records exactly what `step (.call … false)` records, a raising call nothing -/
theorem tracedCall_table {α ε : Type} (t : Table) (name : String) (dt : Rat) (v : α) (e : ε) :
    (tracedCall t name dt (Outcome.ret v : Outcome α ε)).1 = step t (.call name dt false) ∧
    (tracedCall t name dt (Outcome.raise e : Outcome α ε)).1 = t :=
  ⟨rfl, rfl⟩

/-- **one sample per completed call**, appended under the function's name; other names untouched -/
theorem one_sample_per_call (t : Table) (name : String) (dt : Rat) :
    samples (step t (.call name dt false)) name = samples t name ++ [dt] ∧
    ∀ m, m ≠ name → samples (step t (.call name dt false)) m = samples t m := by
  show samples (record t name dt) name = _ ∧ ∀ m, m ≠ name → samples (record t name dt) m = _
  simp only [record_eq, samples, assocGet?_eq]
  exact ⟨by rw [AL.get_set_self]; rfl, fun m hm => by rw [AL.get_set_ne _ hm]⟩

theorem raising_call_records_nothing (t : Table) (name : String) (dt : Rat) :
    step t (.call name dt true) = t :=
  rfl

/-- invariant of every reachable table: unique keys, and no name with an empty sample list
    (so the mean is always defined) -/
theorem reachable_inv (ops : List Op) :
    KeysNodup (run [] ops) ∧ ∀ p ∈ run [] ops, p.2 ≠ [] :=
  List.foldlRecOn (motive := Inv) ops step inv_nil fun t ht o _ => inv_step t o ht

/-- **history**: the samples of a name are exactly the durations of its completed calls since the
    last clear, in call order -/
theorem samples_are_history (ops : List Op) (name : String) :
    samples (run [] ops) name =
      (since ops).filterMap fun o => match o with
        | .call n dt false => if n = name then some dt else none
        | _ => none := by
  induction ops using List.reverseRecOn with
  | nil => rfl
  | append_singleton r o ih =>
    rw [run_append_singleton, since_append_singleton]
    cases o with
    | clear => rfl
    | call n dt raises =>
      rw [if_neg (show ¬ isClear (.call n dt raises) = true from Bool.false_ne_true),
        List.filterMap_append, ← ih]
      cases raises with
      | true => exact (List.append_nil _).symm
      | false =>
        by_cases hn : n = name
        · rw [hn, (one_sample_per_call _ _ _).1]
          simp only [List.filterMap_cons, List.filterMap_nil, ↓reduceIte]
        · rw [(one_sample_per_call _ _ _).2 _ (Ne.symm hn)]
          simp only [List.filterMap_cons, List.filterMap_nil, hn, ↓reduceIte, List.append_nil]

/-- **statistic, unset window**: sum, resp. mean, of all samples -/
theorem stat_all (l : List Rat) (hl : l ≠ []) :
    stat false none l = .val l.sum ∧ stat true none l = .val (l.sum / l.length) := by
  simp [stat, window, ← List.sum_eq_foldl, hl]

/-- **statistic, window `m ≥ 1`**: sum, resp. mean, of the LAST `min m len` samples -/
theorem stat_window (l : List Rat) (hl : l ≠ []) (m : Nat) (hm : 1 ≤ m) :
    let w := l.drop (l.length - min m l.length)
    w.length = min m l.length ∧
    stat false (some (m : Int)) l = .val w.sum ∧
    stat true (some (m : Int)) l = .val (w.sum / w.length) := by
  intro w
  have hw : w.length = min m l.length :=
    (List.length_drop ..).trans (Nat.sub_sub_self (Nat.min_le_right m l.length))
  have hne : w ≠ [] :=
    List.ne_nil_of_length_pos (hw ▸ Nat.lt_min.2 ⟨hm, List.length_pos_iff.2 hl⟩)
  have e : ∀ avg, stat avg (some (m : Int)) l = stat avg none w := fun avg => by
    rw [stat_eq_window, window_pos l m hm]
  exact ⟨hw, (e false).trans (stat_all w hne).1, (e true).trans (stat_all w hne).2⟩

/-- the query returns one entry per recorded name, in first-call order -/
theorem getTrace_keys (t : Table) (avg : Bool) (mh : Option Int) :
    (getTrace t avg mh).map (·.1) = t.map (·.1) := by
  simp [getTrace, List.map_map, Function.comp_def]

/-- **clear** removes every recorded trace -/
theorem clear_empties (t : Table) (avg : Bool) (mh : Option Int) :
    step t .clear = [] ∧ getTrace (step t .clear) avg mh = [] :=
  ⟨rfl, rfl⟩

/-- **refinement, every event sequence**: the wrapper's clock arithmetic (one start reading per
    active invocation, sample = clock at return − own start reading) records exactly what the
    clock-free specification records, in which every active invocation accumulates the time that
    passes while it is active — however deeply and in whatever pattern traced calls nest, including a
    function that re-enters itself -/
theorem nested_refines (evs : List Ev) (t : Table) :
    (nrun { table := t } evs).table = (srun { table := t } evs).table ∧
    (nrun { table := t } evs).stack.map (·.1) = (srun { table := t } evs).stack.map (·.1) := by
  have h : absN (nrun { table := t } evs) = srun { table := t } evs := absN_run evs { table := t }
  rw [← h]
  simp [absN, List.map_map, Function.comp_def]

/-- a plain (non-nested) call is the special case the flat model `step` describes -/
theorem flat_is_special_case (t : Table) (name : String) (dt : Rat) :
    (nrun { table := t } [.enter name, .tick dt, .leave]).table = step t (.call name dt false) := by
  simp [nrun, nstep, step]

/-- **recursion**: `f` re-entering itself after `a`, the inner call lasting `b`, and returning `c`
    later records `b` for the inner and `a + b + c` for the outer invocation, in that order (a shared
    start field would record `b` and `b + c`) -/
theorem recursion_two_levels (t : Table) (f : String) (a b c : Rat) :
    (nrun { table := t } [.enter f, .tick a, .enter f, .tick b, .leave, .tick c, .leave]).table
      = record (record t f b) f (a + b + c) := by
  simp [nrun, nstep]

/-- a chain of nested calls is exactly the event sequence the driver runs for the harness's
    re-entrant operations: non-vacuity of the above on a three-level chain through two functions -/
example : (nrun {} (chainEvents ["f", "g", "f"] [1, 2] [4, 8, 16])).table = [("f", [4, 1 + 2 + 4 + 8 + 16]), ("g", [2 + 4 + 8])] := by
  decide +kernel

end KV.C20
