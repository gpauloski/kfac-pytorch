/-
C14 — triangular packing of symmetric matrices is lossless.
Model: KV.Comm.getTriu / fillTriu / checkShape / the three communicator entry points
(kfac/distributed.py).
-/
import KfacVerif.Lemmas.Triu
import KfacVerif.Lemmas.BasicL

namespace KV.C14
open KV KV.Comm

/-- the packed vector of an `n × n` matrix has `n(n+1)/2` entries -/
theorem length_triu {A : Mat} {n : Nat} (hA : Square A n) : (getTriu A).length = n * (n + 1) / 2 :=
  getTriu_eq_P A ▸ length_getTriuP hA

/-- pack then unpack reproduces a symmetric matrix exactly -/
theorem fill_get {A : Mat} {n : Nat} (hA : Square A n) (hS : Symm A n) :
    fillTriu n (getTriu A) = A :=
  getTriu_eq_P A ▸ fill_getP 0 hA hS

/-- unpacking always yields a square symmetric matrix -/
theorem fill_symmetric (n : Nat) (v : List Int) : Square (fillTriu n v) n ∧ Symm (fillTriu n v) n :=
  ⟨square_fillTriuP 0 n v, symm_fillTriuP 0 n v⟩

/-- unpack then pack is the identity on vectors of the right length -/
theorem get_fill {n : Nat} {v : List Int} (hv : v.length = n * (n + 1) / 2) :
    getTriu (fillTriu n v) = v :=
  getTriu_eq_P _ ▸ get_fillP 0 hv

/-- packing is linear -/
theorem getTriu_add {A B : Mat} {n : Nat} (hA : Square A n) (hB : Square B n) :
    getTriu (matAdd A B) = vecAdd (getTriu A) (getTriu B) :=
  getTriu_add' hA hB

/-- symmetric all-reduce = dense all-reduce, for any number of ranks:
    unpacking the sum of the packed matrices gives the sum of the matrices -/
theorem sym_reduce_eq_dense {n : Nat} (Ms : List Mat) (hne : Ms ≠ [])
    (hsq : ∀ A ∈ Ms, Square A n) (hsy : ∀ A ∈ Ms, Symm A n) :
    fillTriu n (sumRanks (Ms.map getTriu)) = matSum Ms := by
  obtain ⟨e, q, s⟩ := sumRanks_getTriu Ms hne hsq hsy
  rw [e, fill_get q s]

/-- symmetric broadcast = dense broadcast: every receiver unpacks the root's packed matrix -/
theorem sym_bcast_eq_dense {A : Mat} {n : Nat} (hA : Square A n) (hS : Symm A n) :
    fillTriu n (getTriu A) = A := fill_get hA hS

/-- symmetry-aware mode sends `n(n+1)/2` elements for an `n × n` matrix -/
theorem triu_count (n : Nat) : commElems [n, n] true = n * (n + 1) / 2 := rfl

/-- shapes that are not 2-D square are rejected … -/
theorem rejects_nonsquare (shape : List Nat) (h : ¬ ∃ n, shape = [n, n]) :
    checkShape shape true = .error .nonSquare := by
  unfold checkShape
  simp only [if_true]
  split
  · rename_i a b
    by_cases hab : a = b
    · subst hab; exact absurd ⟨a, rfl⟩ h
    · simp [hab]
  · rfl

theorem accepts_square (n : Nat) (sym : Bool) : checkShape [n, n] sym = .ok () := by
  unfold checkShape; cases sym <;> simp

/-- … by all three entry points, BEFORE anything is communicated or any state changes
    (whenever the group has more than one member; a one-member group returns the tensor as is) -/
theorem rejects_before_communication (s : CState) (g : Key) (tid : Nat) (shape : List Nat)
    (es dt src : Nat) (hg : g.length ≠ 1) (h : ¬ ∃ n, shape = [n, n]) :
    allreduceBucketed s g tid shape es dt true = (s, [], .err .nonSquare) ∧
    allreduce s g tid shape true = (s, [], .err .nonSquare) ∧
    broadcast s g tid shape true src = (s, [], .err .nonSquare) := by
  have hc := rejects_nonsquare shape h
  simp [allreduceBucketed, allreduce, broadcast, hg, hc]

/-! ## the packing only MOVES entries: every payload type

`getTriuP`, `fillTriuP`, `SquareP`, `SymmP` (Lemmas/Triu.lean) are the definitions of the model with
the entry type left open; the executable Int-valued model compared with the code on every run is their
instance at `Int` (`getTriu_is_poly`, `fillTriu_is_poly`).  So "every dtype" — including entries no
arithmetic is exact for: infinities, NaN payloads, signed zeros — is a theorem, and the bit-exact
extreme-value stream of the check is its tie to the code. -/
section AnyPayload

/-- the Int-valued executable model is the polymorphic packing at `α := Int` -/
theorem getTriu_is_poly (A : Mat) : getTriu A = getTriuP A :=
  getTriu_eq_P A

theorem fillTriu_is_poly (n : Nat) (v : List Int) : fillTriu n v = fillTriuP (0 : Int) n v :=
  rfl

/-- **every dtype, every payload**: for ANY type of entries (floats of any width incl. infinities,
    NaN payloads and signed zeros, integers, …) packing the upper triangle of a symmetric `n × n`
    matrix and unpacking it gives back the very same entries -/
theorem fill_get_any_payload {α : Type} (d : α) {A : List (List α)} {n : Nat}
    (hA : SquareP A n) (hS : SymmP d A n) : fillTriuP d n (getTriuP A) = A :=
  fill_getP d hA hS

theorem get_fill_any_payload {α : Type} (d : α) {n : Nat} {v : List α} (hv : v.length = n * (n + 1) / 2) :
    getTriuP (fillTriuP d n v) = v :=
  get_fillP d hv

/-- packing commutes with any entrywise map (a dtype conversion, a scaling): it is natural in the
    payload type -/
theorem getTriu_map {α β : Type} (f : α → β) (A : List (List α)) :
    getTriuP (A.map (List.map f)) = (getTriuP A).map f :=
  getTriuAuxP_map f A 0

theorem fillTriu_map {α β : Type} (f : α → β) (d : α) (n : Nat) (v : List α) (hv : v.length = n * (n + 1) / 2) :
    fillTriuP (f d) n (v.map f) = (fillTriuP d n v).map (List.map f) := by
  have _ := hv  -- not needed: `(v.map f).getD k (f d) = f (v.getD k d)` at every index
  simp only [fillTriuP, List.map_map]
  apply List.map_congr_left
  intro i _
  simp only [Function.comp, List.map_map]
  apply List.map_congr_left
  intro j _
  simp only [Function.comp, KV.getD_map_default]
  split <;> rfl

/-- non-vacuity with a payload type that has no arithmetic at all -/
example : fillTriuP "?" 3 (getTriuP [["a", "b", "c"], ["b", "d", "e"], ["c", "e", "f"]])
    = [["a", "b", "c"], ["b", "d", "e"], ["c", "e", "f"]] := by
  decide

end AnyPayload

end KV.C14
