/-
C09 — checkpoints round-trip and resuming is equivalent to never stopping.
Stated on the reference machine KV.Spec (which M-Precond refines, C05 `refines`, including its
`saveLoad` operation) and, for the exact restoration of the state on every rank, on M-Precond
itself.
-/
import KfacVerif.Lemmas.SpecC09
import KfacVerif.Lemmas.PrecondRT

namespace KV.C09
open KV KV.Precond KV.Spec

/-- **round trip on every rank** (M-Precond): loading the saved state into a fresh preconditioner
    restores the step count, the hyper-parameters and every layer's factors exactly, on every rank,
    under every strategy; micro-step counters and batch buffers start empty -/
theorem roundtrip_all_ranks (c : Cfg) (s : St) (ci : Bool)
    (hne : (Precond.saveLoad c s true ci).err = none) (hs : s.err = none) (r l : Nat)
    (hr : r < c.world) (hl : l < c.layers.length) (hshape : s.ranks.length = c.world)
    (hshape' : ∀ ls ∈ s.ranks, ls.length = c.layers.length) :
    let s' := Precond.saveLoad c s true ci
    s'.steps = s.steps ∧
    s'.hyper.fus.val s.steps = s.hyper.fus.val s.steps ∧ s'.hyper.ius.val s.steps = s.hyper.ius.val s.steps ∧
    s'.hyper.damping.val s.steps = s.hyper.damping.val s.steps ∧ s'.hyper.decay.val s.steps = s.hyper.decay.val s.steps ∧
    s'.hyper.kl.val s.steps = s.hyper.kl.val s.steps ∧ s'.hyper.lr.val s.steps = s.hyper.lr.val s.steps ∧
    ((getL s' r l).aFactor.map (·.val)) = ((getL s r l).aFactor.map (·.val)) ∧
    ((getL s' r l).gFactor.map (·.val)) = ((getL s r l).gFactor.map (·.val)) ∧
    (getL s' r l).aBatch = none ∧ (getL s' r l).gBatch = none := by
  have _ := hne; have _ := hs; have _ := hshape; have _ := hshape'  -- not needed: `PF.roundtrip` holds of any state, raised or not
  obtain ⟨h1, h2, h3, h4, h5, h6⟩ := PF.roundtrip c s ci r l hr hl
  dsimp only
  rw [h2]
  exact ⟨h1, rfl, rfl, rfl, rfl, rfl, rfl, h3, h4, h5, h6⟩

/-- **loading = recomputing the second-order data from the restored factors** (the statement's
    "otherwise" case, which is what a load with `compute_inverses=True` always does) -/
theorem load_is_refresh (c : SCfg) (s : SSt) (hb : Boundary c s)
    (hf : ∀ x ∈ s.layers, x.aFactor.isSome ∧ x.gFactor.isSome) :
    SameFutureUpTo c (Spec.saveLoad c s true true) (refreshAll c s) := by
  have _ := hf  -- not needed: `refresh` reads a missing factor as `.zero` on both sides
  exact (SFU_iff _ _ _).mpr (load_refresh hb)

/-- states that agree on everything `precond`/`refresh`/`updateReduce` read have the same future -/
theorem same_future_same_outs (c : SCfg) (s s' : SSt) (h : SameFutureUpTo c s s') (ops : List Op) :
    outsOf c s ops = outsOf c s' ops :=
  ((SFU_iff _ _ _).mp h).outs ops

/-- **resume ≡ never stopping, case 1**: if the live second-order data had been computed from the
    saved factors with the damping the load reads (recomputing changes nothing), every continuation
    produces the same gradients as the uninterrupted run -/
theorem resume_equiv_fresh (c : SCfg) (s : SSt) (hb : Boundary c s)
    (hf : ∀ x ∈ s.layers, x.aFactor.isSome ∧ x.gFactor.isSome)
    (hfresh : SameFutureUpTo c (refreshAll c s) s) (ops : List Op) :
    outsOf c (Spec.saveLoad c s true true) ops = outsOf c s ops := by
  have _ := hf  -- not needed
  exact ((load_refresh hb).trans ((SFU_iff _ _ _).mp hfresh)).outs ops

/-- **resume ≡ never stopping, case 2**: if the next step is an inverse-update step the data is
    recomputed anyway — with or without `compute_inverses` — and again every continuation agrees -/
theorem resume_equiv_next_refresh (c : SCfg) (s : SSt) (hb : Boundary c s)
    (hf : ∀ x ∈ s.layers, x.aFactor.isSome ∧ x.gFactor.isSome) (ci : Bool)
    (hnext : s.steps % s.hyper.ius.val s.steps = 0) (ops : List Op) :
    outsOf c (Spec.saveLoad c s true ci) (List.replicate c.accum (.fwdBwd true) ++ .step :: ops)
      = outsOf c s (List.replicate c.accum (.fwdBwd true) ++ .step :: ops) := by
  have _ := hf  -- not needed
  obtain ⟨h1, h2, _, _, _, h6⟩ := Spec.saveLoad_scalars c s true ci
  exact passes_then_step c ops c.accum _ _ (saveLoad_rel hb ci) h6 (by rw [h1, h2]; exact hnext)

/-- **otherwise**: exactly the gradients obtained with second-order data recomputed from the
    restored factors -/
theorem resume_otherwise (c : SCfg) (s : SSt) (hb : Boundary c s)
    (hf : ∀ x ∈ s.layers, x.aFactor.isSome ∧ x.gFactor.isSome) (ops : List Op) :
    outsOf c (Spec.saveLoad c s true true) ops = outsOf c (refreshAll c s) ops := by
  have _ := hf  -- not needed
  exact (load_refresh hb).outs ops

/-- the round trip on the reference machine: step count, hyper-parameters, factors and registered
    values survive; with the factors left out only those are lost -/
theorem roundtrip_spec (c : SCfg) (s : SSt) (inclF ci : Bool) (l : Nat) (hl : l < c.nLayers)
    (hlen : s.layers.length = c.nLayers) :
    let s' := Spec.saveLoad c s inclF ci
    s'.steps = s.steps ∧ s'.hyper = s.hyper ∧ s'.defs = s.defs ∧ s'.pass = s.pass ∧
    (inclF = true → (getS s' l).aFactor = (getS s l).aFactor ∧ (getS s' l).gFactor = (getS s l).gFactor) ∧
    (inclF = false → (getS s' l).aFactor = none ∧ (getS s' l).gFactor = none) := by
  have _ := hlen  -- not needed
  obtain ⟨h1, h2, h3, h4, _, _⟩ := Spec.saveLoad_scalars c s inclF ci
  refine ⟨h1, h2, h3, h4, ?_, ?_⟩
  · rintro rfl
    have h := (saveLoad_proj facOf (fun _ _ _ _ _ _ _ _ => rfl) c s ci l).trans (slCopy_fac c s l hl)
    exact ⟨congrArg Prod.fst h, congrArg Prod.snd h⟩
  · rintro rfl
    rw [show getS (Spec.saveLoad c s false ci) l = getS (slFresh c s) l from rfl, getS_slFresh]
    exact ⟨rfl, rfl⟩

/-- loading a state that was kept in memory while training went on (roll-back) is the same
    operation as save-then-load at the moment the state was taken (M-Precond) -/
theorem saveLoad_is_loadInto (c : Cfg) (s : St) (f ci : Bool) :
    Precond.saveLoad c s f ci = Precond.loadInto c (Precond.saveState c s f) (Precond.saveState c s f) f ci :=
  PF.saveLoad_is_loadInto c s f ci

/-- the repaired `load_state_dict` (fix f317514: layers without factors are skipped instead of
    raising), which is what the driver executes, is the operation of the theorems above whenever
    every layer has its factors -/
theorem loadInto'_eq (c : Cfg) (cur snap : St) (f ci : Bool)
    (hs : snap.ranks.length = c.world) (hs' : ∀ ls ∈ snap.ranks, ls.length = c.layers.length)
    (hf : ∀ r l, r < c.world → l < c.layers.length →
      (getL snap r l).aFactor.isSome = true ∧ (getL snap r l).gFactor.isSome = true) :
    Precond.loadInto' c cur snap f ci = Precond.loadInto c cur snap f ci := by
  have _ := hs; have _ := hs'  -- not needed: `hf` is asked of cells in range only
  rw [LoadInto.loadInto'_eq_stages, loadInto_eq, LoadInto.invAll'_eq _ (LoadInto.HasF.loadFacs hf cur)]

end KV.C09
