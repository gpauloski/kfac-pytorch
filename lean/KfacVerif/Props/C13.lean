/-
C13 — memory and communication placement follow the KAISA strategy.
Over M-Precond (the distributed state machine tied to the code by the correspondence, which
compares holdings, memory_usage() and every collective's group/size per rank).
-/
import KfacVerif.Lemmas.Holdings

namespace KV.C13
open KV KV.Precond

/-- **only gradient workers ever hold second-order data** (any history without a checkpoint load) -/
theorem holds_only_workers (c : Cfg) (hc : AsgOK c) (h : Hyper) (ops : List Op) (hn : noLoad ops)
    (r l : Nat) (hh : holdsSecondOrder c (run c (St.init c h) ops) r l = true) :
    r ∈ c.asg.workers l := by
  apply Decidable.by_contra
  intro hr
  -- the cell of a rank outside the group has the signature it was constructed with
  obtain ⟨a1, a2, a3, a4, a5, a6, a7⟩ := ((HR.R.run_noLoad hc (St.init c h) hn).kept r l).2 hr
  rw [getL_init] at a1 a2 a3 a4 a5 a6 a7
  unfold holdsSecondOrder at hh
  cases hm : c.method <;> simp [hm, ← a1, ← a2, ← a3, ← a4, ← a5, ← a6, ← a7] at hh

/-- **every gradient worker holds it once a step has been taken** -/
theorem workers_hold_after_step (c : Cfg) (hc : AsgOK c) (h : Hyper) (ops : List Op) (hn : noLoad ops)
    (hs : hasStep ops = true) (hne : (run c (St.init c h) ops).err = none)
    (r l : Nat) (hl : l < c.layers.length) (hr : r ∈ c.asg.workers l)
    (hw : c.world = (run c (St.init c h) ops).ranks.length) :
    holdsSecondOrder c (run c (St.init c h) ops) r l = true := by
  have _ := hw
  have := HR.est_run hc hl hr ops (St.init c h) (Shape.init c h) rfl hn hs hne
  unfold HR.hq at this
  unfold holdsSecondOrder
  cases hm : c.method <;> rw [hm] at this <;> simp only [this, Bool.true_or]

/-- **every collective is one of: a factor all-reduce over the whole world, an inverse broadcast
    inside a gradient-worker group rooted at an inverse worker, a gradient broadcast inside a
    receiver group rooted at its source** — for every history whatsoever -/
theorem traffic_classified (c : Cfg) (h : Hyper) (ops : List Op) (m : List Nat) (d : Desc)
    (hm : GAct.issue m d ∈ (run c (St.init c h) ops).acts) :
    isFactorTraffic c m d ∨ isInverseTraffic c m d ∨ isGradTraffic c m d :=
  classified c h ops m d hm

/-- **never under MEM-OPT**: without `broadcast_inverses` there is no inverse traffic at all, in any
    history (a checkpoint load, too, broadcasts only when `broadcast_inverses`) -/
theorem no_inverse_traffic (c : Cfg) (hb : c.asg.bcastInv = false) (h : Hyper) (ops : List Op)
    (m : List Nat) (d : Desc) (hm : GAct.issue m d ∈ (run c (St.init c h) ops).acts) :
    isFactorTraffic c m d ∨ isGradTraffic c m d :=
  (traffic c h ops m d hm).imp_right fun k => k.elim (fun k => absurd (hb ▸ k.1) nofun) And.right

/-- **never under COMM-OPT**: without `broadcast_gradients` there is no gradient traffic -/
theorem no_gradient_traffic (c : Cfg) (hb : c.asg.bcastGrad = false) (h : Hyper) (ops : List Op)
    (m : List Nat) (d : Desc) (hm : GAct.issue m d ∈ (run c (St.init c h) ops).acts) :
    isFactorTraffic c m d ∨ isInverseTraffic c m d :=
  (traffic c h ops m d hm).imp_right fun k => k.elim And.right fun k => absurd (hb ▸ k.1) nofun

/-- **a world of one communicates nothing** (the hypothesis on the gradient-worker groups is
    `length = 1`, not `≤ 1`: an EMPTY group does issue a broadcast, `bcastField` only skips groups of
    exactly one member) -/
theorem world_one_silent (c : Cfg) (hw : c.world = 1) (hwk : ∀ l, (c.asg.workers l).length = 1)
    (hrv : ∀ r, (c.asg.recv r).length ≤ 1) (h : Hyper) (ops : List Op) :
    ∀ a ∈ (run c (St.init c h) ops).acts, ∀ m d, a ≠ GAct.issue m d := by
  intro a ha m d e
  subst e
  obtain ⟨b, hi, hb⟩ := issue_sites c h ops m d ha
  cases hi with
  | flush hne => exact absurd (hb (Or.inr hw)) hne
  | red l isA _ hw' _ => exact hw' hw
  | inv l src elems _ hlen _ => exact hlen (hwk l)
  | grad r0 l _ hlen hhead =>
    have h1 := hrv r0
    cases hrc : c.asg.recv r0 with
    | nil => rw [hrc] at hhead; cases hhead
    | cons x t => rw [hrc] at hlen h1; simp only [List.length_cons] at hlen h1; omega

/-- **symmetry-aware mode sends n(n+1)/2 elements per symmetric n × n matrix** … -/
theorem tri_elems (n : Nat) : triElems n true = n * (n + 1) / 2 ∧ triElems n false = n * n :=
  ⟨rfl, rfl⟩

/-- … for every factor, when un-bucketed: a factor all-reduce carries exactly `triElems n symAware`
    elements for one of the layer's two factor sizes (a bucket carries a sum of such counts) -/
theorem factor_allreduce_elems (c : Cfg) (hu : c.bucketed = false) (h : Hyper) (ops : List Op)
    (m : List Nat) (d : Desc) (hm : GAct.issue m d ∈ (run c (St.init c h) ops).acts)
    (hk : d.kind = .allreduce) :
    ∃ l, l < c.layers.length ∧
      (d.elems = triElems (c.layers.getD l ⟨0, 0⟩).aDim c.symAware ∨
       d.elems = triElems (c.layers.getD l ⟨0, 0⟩).gDim c.symAware) := by
  obtain ⟨b, hi, hb⟩ := issue_sites c h ops m d hm
  cases hi with
  | flush hne => exact absurd (hb (Or.inl hu)) hne
  | red l isA _ _ hl =>
    cases isA
    · exact ⟨l, hl, Or.inr rfl⟩
    · exact ⟨l, hl, Or.inl rfl⟩
  | inv l src elems _ _ _ => cases hk
  | grad r0 l _ _ _ => cases hk

/-- **reported memory = bytes of what is held**: the total is the sum of the six categories (each of
    which, by the definition of `memBytes`, charges a rank only for the slots it holds) -/
theorem mem_total (c : Cfg) (s : St) (r : Nat) :
    ((memBytes c s r).find? (·.1 == "total")).map (·.2) =
      some ((((memBytes c s r).filter (·.1 != "total")).map (·.2)).sum) := by
  unfold memBytes
  simp only [List.find?, List.filter, String.reduceBEq, String.reduceBNe, List.map, List.sum_cons, List.sum_nil,
    Option.map_some, Nat.add_zero, Nat.add_assoc]

end KV.C13
