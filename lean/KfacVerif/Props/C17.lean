/-
C17 — greedy work assignment is complete, group-confined, balanced and deterministic.
All statements are about `KV.Kaisa.greedy` / `placeAll`, the model of
`KAISAAssignment.greedy_assignment` (tied to the code by harness/props/C17.py).
-/
import KfacVerif.Lemmas.Greedy

namespace KV.C17
open KV KV.Kaisa

/-- **complete** (key structure): the result has the same layers, in the same order,
    each with the same factor keys in the same order as the input. -/
theorem complete_keys (work : Work) (groups : List (List Nat)) (world : Nat) (col : Bool) :
    (greedy work groups world col).map (fun l => (l.1, l.2.map (·.1)))
      = work.map (fun l => (l.1, l.2.map (·.1))) := by
  unfold greedy
  simp [List.map_map, Function.comp_def]

/-- **complete** (no `-1` left): every factor of every layer received a rank from a
    placement record (the `.getD 0` in `greedy` is never the default). -/
theorem complete_assigned {work : Work} {groups : List (List Nat)} {world : Nat} {col : Bool}
    (hw : WorkOK work) {l : String × List (String × Nat)} (hl : l ∈ work)
    {f : String × Nat} (hf : f ∈ l.2) :
    ∃ r, lookupPlacement (placements work groups world col) l.1 f.1 = some r :=
  placements_assigned groups world col hw.layers hl hf

/-- **valid rank + confined**: for every layer there is ONE worker group of the input that
    contains the ranks of all its factors (hence every rank is `< world`). -/
theorem confined {work : Work} {groups : List (List Nat)} {world : Nat} {col : Bool}
    (hw : WorkOK work) (hg : GroupsOK groups world)
    {l : String × List (String × Nat)} (hl : l ∈ work) :
    ∃ g ∈ groups, ∀ f ∈ l.2, ∀ r,
      lookupPlacement (placements work groups world col) l.1 f.1 = some r → r ∈ g := by
  obtain ⟨g, hgm, h⟩ := placements_confined world hg.ne hg.gne col hw.layers hl
  exact ⟨g, hgm, fun f _ r hr => h f.1 r hr⟩

theorem valid_rank {work : Work} {groups : List (List Nat)} {world : Nat} {col : Bool}
    (hw : WorkOK work) (hg : GroupsOK groups world)
    {l : String × List (String × Nat)} (hl : l ∈ work) {f : String × Nat} (hf : f ∈ l.2) {r : Nat}
    (hr : lookupPlacement (placements work groups world col) l.1 f.1 = some r) : r < world := by
  obtain ⟨g, hgm, h⟩ := confined (col := col) hw hg hl
  exact hg.lt g hgm r (h f hf r hr)

/-- **co-located**: with `colocate = true` all factors of a layer sit on a single worker. -/
theorem colocated_single {work : Work} {groups : List (List Nat)} {world : Nat}
    (hw : WorkOK work) {l : String × List (String × Nat)} (hl : l ∈ work)
    {f f' : String × Nat} (hf : f ∈ l.2) (hf' : f' ∈ l.2) {r r' : Nat}
    (hr : lookupPlacement (placements work groups world true) l.1 f.1 = some r)
    (hr' : lookupPlacement (placements work groups world true) l.1 f'.1 = some r') : r = r' := by
  have _ := hf; have _ := hf'
  obtain ⟨w, h⟩ := placements_colocated groups world hw.layers hl
  rw [h f.1 r hr, h f'.1 r' hr']

/-- **order**: layers are placed in stable descending order of total cost:
    the processing order is a permutation of the input, sorted by total cost descending,
    and layers of equal total cost keep their input order. -/
theorem order_perm (work : Work) : (sortedLayers work).Perm work :=
  sortedLayers_perm work

theorem order_sorted (work : Work) :
    (sortedLayers work).Pairwise (fun a b => sumCosts a.2 ≥ sumCosts b.2) := by
  have := sortBy_sorted (fun a b : String × List (String × Nat) => decide (sumCosts a.2 ≥ sumCosts b.2))
    (by intro a b h; simp at h ⊢; omega)
    (by intro a b c h1 h2; simp at h1 h2 ⊢; omega) work
  exact this.imp (by intro a b h; simpa using h)

/-- stability: the sub-list of layers of any fixed total cost appears in input order -/
theorem order_stable (work : Work) (c : Nat) :
    (sortedLayers work).filter (fun l => sumCosts l.2 == c) = work.filter (fun l => sumCosts l.2 == c) :=
  filter_sortBy _ _ (by intro a b ha hb; simp at ha hb ⊢; omega) work

theorem placements_follow_order (work : Work) (groups : List (List Nat)) (world : Nat) (col : Bool) :
    (placements work groups world col).map (·.layer) = (sortedLayers work).map (·.1) :=
  placeAll_layers groups col _ _

/-- **greedy choice (group)**: every layer went to the FIRST group of minimum load at that time. -/
theorem greedy_group_choice {groups : List (List Nat)} {col : Bool} {loads : List Nat}
    {layers : List (String × List (String × Nat))} (hne : groups ≠ [])
    {p : Placement} (hp : p ∈ (placeAll groups col loads layers).2) :
    p.groupIdx < groups.length ∧
    (∀ j, j < groups.length →
        loadOf p.loadsBefore (groups.getD p.groupIdx []) ≤ loadOf p.loadsBefore (groups.getD j [])) ∧
    (∀ j, j < p.groupIdx →
        loadOf p.loadsBefore (groups.getD p.groupIdx []) < loadOf p.loadsBefore (groups.getD j [])) := by
  obtain ⟨loads', l, _, rfl⟩ := mem_placeAll groups col layers loads p hp
  rw [placeLayer_snd]
  exact argminIdx_map (loadOf loads') hne []

/-- **greedy choice (worker)**: `minWorker` returns the first least-loaded member of the group. -/
theorem greedy_worker_choice (loads : List Nat) {g : List Nat} (hg : g ≠ []) :
    minWorker loads g ∈ g ∧ ∀ r ∈ g, loads.getD (minWorker loads g) 0 ≤ loads.getD r 0 :=
  minWorker_spec loads hg

/-- the largest single item the run places: a layer total when co-located, a factor cost otherwise -/
def maxItem (col : Bool) (layers : List (String × List (String × Nat))) : Nat :=
  if col then (layers.map (fun l => sumCosts l.2)).foldl max 0
  else (layers.map (fun l => (l.2.map (·.2)).foldl max 0)).foldl max 0

def maxLayer (layers : List (String × List (String × Nat))) : Nat :=
  (layers.map (fun l => sumCosts l.2)).foldl max 0

/-- **worker balance**: starting from zero loads, after placing ANY list of layers (so in
    particular after every prefix of a run), two workers of the same group differ in load by
    at most the largest single item placed. -/
theorem worker_balance {groups : List (List Nat)} {world : Nat} (hg : GroupsOK groups world)
    (col : Bool) (layers : List (String × List (String × Nat))) :
    ∀ g ∈ groups, ∀ a ∈ g, ∀ b ∈ g,
      ((placeAll groups col (List.replicate world 0) layers).1).getD a 0
        ≤ ((placeAll groups col (List.replicate world 0) layers).1).getD b 0 + maxItem col layers := by
  refine (placeAll_spec hg col layers _ (by simp)).2.2.1 _ ?_ (winv_zero _ _ _)
  intro l hl
  unfold ItemLe
  cases col with
  | true => exact le_foldl_max_map (fun l => sumCosts l.2) hl
  | false =>
    intro f hf
    have h1 : f.2 ≤ (l.2.map (·.2)).foldl max 0 := le_foldl_max_map (·.2) hf
    have h2 := le_foldl_max_map (fun l : String × List (String × Nat) => (l.2.map (·.2)).foldl max 0) hl
    exact Nat.le_trans h1 h2

/-- **group balance**: likewise group loads differ by at most the largest layer total placed. -/
theorem group_balance {groups : List (List Nat)} {world : Nat} (hg : GroupsOK groups world)
    (col : Bool) (layers : List (String × List (String × Nat))) :
    ∀ g ∈ groups, ∀ g' ∈ groups,
      loadOf (placeAll groups col (List.replicate world 0) layers).1 g
        ≤ loadOf (placeAll groups col (List.replicate world 0) layers).1 g' + maxLayer layers :=
  (placeAll_spec hg col layers _ (by simp)).2.2.2 _
    (fun _ hl => le_foldl_max_map (fun l => sumCosts l.2) hl) (ginv_zero _ _ _)

/-- **conservation**: the final loads account for exactly the costs placed
    (nothing is lost or double-counted). -/
theorem loads_conserved {groups : List (List Nat)} {world : Nat} (hg : GroupsOK groups world)
    (col : Bool) (layers : List (String × List (String × Nat))) :
    ((placeAll groups col (List.replicate world 0) layers).1).sum
      = (layers.map (fun l => sumCosts l.2)).sum := by
  rw [(placeAll_spec hg col layers _ (by simp)).2.1]; simp

/-- **pure**: the result is a function of its four arguments only (definitional in the model;
    on the implementation side the correspondence runs every input twice). -/
theorem pure (work : Work) (groups : List (List Nat)) (world : Nat) (col : Bool) :
    ∀ w' g' n' c', w' = work → g' = groups → n' = world → c' = col →
      greedy w' g' n' c' = greedy work groups world col := by
  intro _ _ _ _ h1 h2 h3 h4; subst h1 h2 h3 h4; rfl

end KV.C17
