/-
C02 — distributed work placement is semantically transparent.
Corollaries of the refinement theorem: the reference machine KV.Spec does not mention the work
assignment, the bucket capacity or the symmetry-aware switch, so nothing the ranks compute depends
on them.  "Every interleaving" comes from C03 (the lock-step result is the result of every
schedule: programs are deterministic data-flow over collectives whose matching is schedule
independent).
-/
import KfacVerif.Lemmas.KaisaLink
import Mathlib.Data.Matrix.Basic

namespace KV.C02
open KV KV.Precond KV.Spec

/-- **ranks agree**: after every history all ranks hold identical gradients -/
theorem ranks_agree (c : Cfg) (hc : Refine.CfgOK2 c) (h : Hyper) (ops : List Op)
    (hne : (Precond.run c (St.init c h) ops).err = none) {r r' : Nat} (hr : r < c.world) (hr' : r' < c.world) :
    (Precond.run c (St.init c h) ops).outGrads.getD r [] = (Precond.run c (St.init c h) ops).outGrads.getD r' [] :=
  Refine.ranks_agree c hc h ops hne hr hr'

/-- **placement is irrelevant**: two configurations that agree on what the reference machine sees
    (world size, number of layers, method, pre-division, accumulation, hook mode) — whatever their
    gradient-worker count, co-location, cost heuristic, inverse workers, groups, bucket capacity,
    symmetry-aware setting, element sizes and layer dimensions — leave the same gradients -/
theorem placement_irrelevant (c₁ c₂ : Cfg) (h₁ : Refine.CfgOK2 c₁) (h₂ : Refine.CfgOK2 c₂)
    (hs : ofCfg c₁ = ofCfg c₂) (h : Hyper) (ops : List Op)
    (e₁ : (Precond.run c₁ (St.init c₁ h) ops).err = none) (e₂ : (Precond.run c₂ (St.init c₂ h) ops).err = none)
    {r r' : Nat} (hr : r < c₁.world) (hr' : r' < c₂.world) :
    (Precond.run c₁ (St.init c₁ h) ops).outGrads.getD r [] = (Precond.run c₂ (St.init c₂ h) ops).outGrads.getD r' [] :=
  Refine.placement_irrelevant c₁ c₂ h₁ h₂ hs h ops e₁ e₂ hr hr'

/-- in particular bucketing and symmetry-aware communication never change a gradient -/
theorem bucket_sym_irrelevant (c : Cfg) (bucketed sym : Bool) (cap : Nat)
    (hc : Refine.CfgOK2 c) (h : Hyper) (ops : List Op)
    (e₁ : (Precond.run c (St.init c h) ops).err = none)
    (e₂ : (Precond.run { c with bucketed := bucketed, cap := cap, symAware := sym }
            (St.init { c with bucketed := bucketed, cap := cap, symAware := sym } h) ops).err = none)
    {r : Nat} (hr : r < c.world) :
    (Precond.run c (St.init c h) ops).outGrads.getD r [] =
      (Precond.run { c with bucketed := bucketed, cap := cap, symAware := sym }
        (St.init { c with bucketed := bucketed, cap := cap, symAware := sym } h) ops).outGrads.getD r [] :=
  Refine.placement_irrelevant c _ hc (hc.bucket_sym bucketed sym cap)
    (Refine.ofCfg_bucket_sym c bucketed sym cap).symm h ops e₁ e₂ hr hr

/-- **union of the per-rank batches**: the average over ranks of the per-rank batch second moments
    (equal batch sizes) is the second moment of the union batch — so averaging factors over a world
    of `W` ranks is single-process K-FAC on the concatenated batch.  `X r` is rank `r`'s `B × n`
    batch; the union batch has rows indexed by `(r, i)`. -/
theorem cov_union {W B n : ℕ} (X : Fin W → Matrix (Fin B) (Fin n) ℚ) :
    let U : Matrix (Fin W × Fin B) (Fin n) ℚ := fun p j => X p.1 p.2 j
    (∑ r : Fin W, (X r).transpose * X r) = U.transpose * U := by
  intro U
  ext i j
  rw [Matrix.sum_apply, Matrix.mul_apply, Fintype.sum_prod_type]
  simp only [Matrix.mul_apply, Matrix.transpose_apply]
  rfl

/-- **the statement for KAISA itself**: any two well-formed KAISA assignments of the same world
    (any gradient-worker counts dividing it, co-location on/off, any cost dictionaries = COMPUTE or
    MEMORY heuristic, any CPython set orders) combined with any bucket capacities, symmetry settings,
    element sizes and layer dimensions — but the same method, pre-division, accumulation and hook
    mode — leave identical gradients on every rank after every history -/
theorem kaisa_placement_irrelevant (kc₁ kc₂ : Kaisa.Cfg) (h₁ : C06.OK kc₁) (h₂ : C06.OK kc₂)
    (t₁ : KaisaAssign.TwoFactors kc₁) (t₂ : KaisaAssign.TwoFactors kc₂)
    (n₁ : kc₁.work ≠ []) (n₂ : kc₂.work ≠ []) (hw : kc₁.w = kc₂.w)
    (p₁ p₂ : Precond.Cfg) (l₁ : p₁.layers.length = kc₁.work.length) (l₂ : p₂.layers.length = kc₂.work.length)
    (hn : p₁.layers.length = p₂.layers.length) (hm : p₁.method = p₂.method) (hp : p₁.prediv = p₂.prediv)
    (ha : p₁.accum = p₂.accum) (hk : p₁.hook = p₂.hook) (hacc : 0 < p₁.accum)
    (c₁ : p₁.prediv = true → kc₁.colocate = true) (c₂ : p₂.prediv = true → kc₂.colocate = true)
    (h : Hyper) (ops : List Op)
    (e₁ : (Precond.run (KaisaLink.mkCfg kc₁ p₁) (St.init (KaisaLink.mkCfg kc₁ p₁) h) ops).err = none)
    (e₂ : (Precond.run (KaisaLink.mkCfg kc₂ p₂) (St.init (KaisaLink.mkCfg kc₂ p₂) h) ops).err = none)
    {r r' : Nat} (hr : r < kc₁.w) (hr' : r' < kc₂.w) :
    (Precond.run (KaisaLink.mkCfg kc₁ p₁) (St.init (KaisaLink.mkCfg kc₁ p₁) h) ops).outGrads.getD r [] =
      (Precond.run (KaisaLink.mkCfg kc₂ p₂) (St.init (KaisaLink.mkCfg kc₂ p₂) h) ops).outGrads.getD r' [] :=
  placement_irrelevant _ _ (KaisaLink.kaisa_CfgOK2 kc₁ h₁ t₁ n₁ p₁ l₁ hacc c₁)
    (KaisaLink.kaisa_CfgOK2 kc₂ h₂ t₂ n₂ p₂ l₂ (ha ▸ hacc) c₂)
    (KaisaLink.ofCfg_mkCfg_eq hw hn hm hp ha hk) h ops e₁ e₂ hr hr'

end KV.C02
