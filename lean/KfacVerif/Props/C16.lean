/-
C16 — exactly the eligible layers are registered, once each.
Model: KV.Reg (MTree, walk/namedModules, eligible, registered) = kfac/layers/register.py and
kfac/gpt_neox/preconditioner.py:register_modules; `re.search` is the opaque table `MatchTbl`.
-/
import KfacVerif.Lemmas.Reg

namespace KV.C16
open KV KV.Reg

/-- **at most once**: no module instance is visited (hence registered) twice -/
theorem visit_ids_nodup (t : MTree) : ((namedModules t).map (·.id)).Nodup := by
  simpa [namedModules] using (walk_ok "" [] t).nodup

/-- **complete walk**: every reachable module instance is visited -/
theorem visit_complete (t : MTree) (h : IdsConsistent t) :
    ∀ m ∈ nodes t, m.id ∈ (namedModules t).map (·.id) := by
  have hc0 : Closed t [] [] := by intro m _ hs; simp at hs
  obtain ⟨h1, h2⟩ := walk_closed t h "" [] [] t (fun m hm => hm) hc0
  have key : ∀ m ∈ nodes t,
      (∀ x ∈ nodes m, x ∈ nodes t) ∧ m.id ∈ (walk "" [] t).1 := by
    apply nodes_ind (fun m => (∀ x ∈ nodes m, x ∈ nodes t) ∧ m.id ∈ (walk "" [] t).1)
    · rintro m ⟨hsub, hid⟩ n c hnc
      have hcsub : ∀ x ∈ nodes c, x ∈ nodes m := by
        intro x hx
        rw [nodes_eq m]
        exact List.mem_cons_of_mem _ (nodes_child_subset hnc x hx)
      refine ⟨fun x hx => hsub x (hcsub x hx), ?_⟩
      exact h1 m (hsub m (self_mem_nodes m)) hid (by simp) n c hnc
    · exact ⟨fun x hx => hx, h2⟩
  intro m hm
  have := ((walk_ok "" [] t).mem m.id).1 (key m hm).2
  simpa [namedModules] using this

/-- a visit reports the module's own class, parameters and leaf status -/
theorem visit_faithful (t : MTree) (h : IdsConsistent t) :
    ∀ v ∈ namedModules t, ∃ m ∈ nodes t, m.id = v.id ∧ m.cls = v.cls ∧ m.clsName = v.clsName ∧
      m.params = v.params ∧ m.isLeaf = v.leaf := by
  have _ := h  -- (not needed: faithfulness holds without consistency)
  intro v hv
  exact (walk_ok "" [] t).faithful v (by simpa [namedModules] using hv)

/-- **registered = eligible leaves**, in walk (pre-order) order -/
theorem registered_eq_filter (tbl : MatchTbl) (neox : Bool) (t : MTree) (v : Visit) :
    v ∈ registered tbl neox t ↔ v ∈ namedModules t ∧ eligible tbl neox v = true := by
  simp [registered, List.mem_filter]

theorem order_is_preorder (tbl : MatchTbl) (neox : Bool) (t : MTree) :
    (registered tbl neox t).Sublist (namedModules t) :=
  List.filter_sublist (l := namedModules t) (p := eligible tbl neox)

theorem registered_ids_nodup (tbl : MatchTbl) (neox : Bool) (t : MTree) :
    ((registered tbl neox t).map (·.id)).Nodup :=
  (visit_ids_nodup t).sublist ((order_is_preorder tbl neox t).map _)

/-- what `eligible` means, spelled out (standard variant): a leaf Linear/Conv2d (subclasses
    included) all of whose parameters require gradients and whose qualified name and class name
    match no skip pattern -/
theorem eligible_spec (tbl : MatchTbl) (v : Visit) (bn bc : List Bool)
    (hn : assocGet? v.name tbl = some bn) (hc : assocGet? v.clsName tbl = some bc) :
    eligible tbl false v = true ↔
      v.leaf = true ∧ (v.cls = 1 ∨ v.cls = 2) ∧ (∀ b ∈ v.params, b = true) ∧
      (∀ b ∈ bn, b = false) ∧ (∀ b ∈ bc, b = false) :=
  eligible_iff tbl false v bn bc hn hc

/-- GPT-NeoX variant: dispatch on the lower-cased class name -/
theorem eligible_spec_neox (tbl : MatchTbl) (v : Visit) (bn bc : List Bool)
    (hn : assocGet? v.name tbl = some bn) (hc : assocGet? (lower v.clsName) tbl = some bc) :
    eligible tbl true v = true ↔
      v.leaf = true ∧ (lower v.clsName = "columnparallellinear" ∨ lower v.clsName = "rowparallellinear") ∧
      (∀ b ∈ v.params, b = true) ∧ (∀ b ∈ bn, b = false) ∧ (∀ b ∈ bc, b = false) :=
  eligible_iff tbl true v bn bc hn hc

/-- the root is visited first with the empty name; a module with no children is a leaf -/
theorem root_first (i c : Nat) (cn : String) (ps : List Bool) (ch : List (String × Option MTree)) :
    (namedModules (.node i c cn ps ch)).head? =
      some { name := "", id := i, cls := c, clsName := cn, params := ps,
             leaf := ch.all fun x => x.2.isNone } := by
  simp [namedModules, walk_node]

end KV.C16
