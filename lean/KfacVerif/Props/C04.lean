/-
C04 — Kronecker factors are decayed running averages of batch second moments.
(1) algebra over ℝ, all sizes: the batch second moment is symmetric PSD, the
    symmetrisation is the identity on it, the recurrence preserves symmetry and PSD-ness, averaging
    over ranks commutes with the recurrence, dividing by a loss scale s divides the moment by s²;
(2) the executable rational `KV.Alg.cov/ema/updateFactor` (compared exactly with the code) are those
    expressions; (3) what M-Precond/Spec do with the values (which the correspondence ties to the
    code): identity on first use, mean of the accumulated micro-batches, average over ranks.
Eval passes and non-update steps are frames (C05 `eval_noop`, `factors_frozen_off_multiples`).
-/
import KfacVerif.Lemmas.FactorAlg
import KfacVerif.Model.Spec
import KfacVerif.Lemmas.SpecFrames
import Mathlib.LinearAlgebra.Matrix.PosDef
import Mathlib.Algebra.Order.Star.Real

namespace KV.C04
open Matrix

variable {r n : Type*} [Fintype r] [Fintype n] [DecidableEq n]

theorem cov_symm (a : Matrix r n ℝ) : (covM a)ᵀ = covM a :=
  smul_gram_symm _ a

/-- `(c + cᵀ)/2` is the identity on a symmetric matrix (the code's symmetrisation is a no-op) -/
theorem symmetrise_id (c : Matrix n n ℝ) (h : cᵀ = c) : (1 / 2 : ℝ) • (c + cᵀ) = c :=
  symm_id c h

theorem cov_posSemidef (a : Matrix r n ℝ) : (covM a).PosSemidef := by
  have h := Matrix.posSemidef_conjTranspose_mul_self a
  rw [conjTranspose_eq_transpose_of_trivial] at h
  exact h.smul (by positivity)

/-- the identity (first "previous" factor) is symmetric PSD -/
theorem ident_posSemidef : (1 : Matrix n n ℝ).PosSemidef :=
  Matrix.PosSemidef.one

/-- **the recurrence preserves symmetric positive semi-definiteness** for any decay in [0, 1] -/
theorem ema_posSemidef (α : ℝ) (h0 : 0 ≤ α) (h1 : α ≤ 1) (F M : Matrix n n ℝ) (hF : F.PosSemidef)
    (hM : M.PosSemidef) : (α • F + (1 - α) • M).PosSemidef :=
  (hF.smul h0).add (hM.smul (sub_nonneg.2 h1))

/-- hence **every factor of every history is symmetric PSD** (any decay schedule with values in [0,1]) -/
theorem iterate_posSemidef (h : List (ℝ × Matrix n n ℝ))
    (hd : ∀ p ∈ h, 0 ≤ p.1 ∧ p.1 ≤ 1 ∧ p.2.PosSemidef) : (iterate h).PosSemidef := by
  induction h with
  | nil => exact Matrix.PosSemidef.one
  | cons p t ih =>
    have hp := hd p List.mem_cons_self
    exact ema_posSemidef p.1 hp.1 hp.2.1 _ _ (ih fun q hq => hd q (List.mem_cons_of_mem _ hq)) hp.2.2

/-- closed form for a constant decay: `F_t = α^t • 1 + (1-α) Σ_{i<t} α^i M_i` (M_0 most recent) -/
theorem iterate_const (α : ℝ) (Ms : List (Matrix n n ℝ)) :
    iterate (Ms.map fun M => (α, M)) =
      α ^ Ms.length • (1 : Matrix n n ℝ) + (1 - α) • ((List.zipIdx Ms).map fun p => α ^ p.2 • p.1).sum := by
  -- with the weights starting at `α ^ k` the induction hypothesis applies to the (older) tail
  have gen : ∀ (t : List (Matrix n n ℝ)) (k : ℕ), α ^ k • iterate (t.map fun M => (α, M)) =
      α ^ (k + t.length) • (1 : Matrix n n ℝ) +
        (1 - α) • ((List.zipIdx t k).map fun p => α ^ p.2 • p.1).sum := by
    intro t
    induction t with
    | nil =>
      intro k
      show α ^ k • (1 : Matrix n n ℝ) = α ^ k • 1 + (1 - α) • 0
      rw [smul_zero, add_zero]
    | cons M t ih =>
      intro k
      -- `α ^ k • (α • F + (1 - α) • M) = α ^ (k + 1) • F + (1 - α) • α ^ k • M`, then `ih` on `F`
      rw [List.map_cons, iterate, List.length_cons, List.zipIdx_cons, List.map_cons, List.sum_cons,
        smul_add, smul_smul, ← pow_succ, ih (k + 1), smul_comm (α ^ k) (1 - α), smul_add (1 - α),
        Nat.add_right_comm, Nat.add_assoc, add_assoc, add_comm (_ • _ • M)]
  have := gen Ms 0
  rwa [pow_zero, one_smul, Nat.zero_add] at this

/-- **average over ranks**: with the same previous factor on every rank, the all-reduced average of
    the per-rank updates is the update with the mean of the per-rank batch moments -/
theorem cross_rank_mean {W : Type*} [Fintype W] [Nonempty W] (α : ℝ) (F : Matrix n n ℝ) (M : W → Matrix n n ℝ) :
    (1 / (Fintype.card W : ℝ)) • ∑ w, (α • F + (1 - α) • M w) =
      α • F + (1 - α) • ((1 / (Fintype.card W : ℝ)) • ∑ w, M w) := by
  have hc : (Fintype.card W : ℝ) ≠ 0 := Nat.cast_ne_zero.mpr Fintype.card_ne_zero
  rw [Finset.sum_add_distrib, Finset.sum_const, Finset.card_univ, ← Finset.smul_sum, smul_add,
    ← Nat.cast_smul_eq_nsmul ℝ, smul_smul, one_div, inv_mul_cancel₀ hc, one_smul, smul_comm]

/-- **loss scale**: the moment of `g / s` is `1/s²` times the moment of `g` -/
theorem unscale (g : Matrix r n ℝ) (s : ℝ) (hs : s ≠ 0) : covM ((1 / s) • g) = (1 / s ^ 2) • covM g := by
  have _ := hs  -- (not needed: `(1 / s) * (1 / s) = 1 / s ^ 2` also at `s = 0`)
  rw [covM, covM, transpose_smul, Matrix.smul_mul, Matrix.mul_smul, smul_smul, smul_smul, smul_smul]
  congr 1
  ring

/-- **loss scale, per micro-batch**: the output gradients of micro-batch `i` arrive multiplied by the
    loss scale `s i` in force at that micro-batch; dividing each by its OWN scale before the second
    moment is taken gives the mean of the unscaled moments, whatever the scales are (they may change
    between micro-batches of one accumulation window) -/
theorem unscale_per_microbatch {ι : Type*} [Fintype ι] (g : ι → Matrix r n ℝ) (s : ι → ℝ) (hs : ∀ i, s i ≠ 0) :
    ∑ i, covM ((1 / s i) • (s i • g i)) = ∑ i, covM (g i) := by
  refine Finset.sum_congr rfl fun i _ => ?_
  rw [smul_smul, one_div, inv_mul_cancel₀ (hs i), one_smul]

/-- ... whereas removing ONE scale from the accumulated moment is only correct when the scales agree:
    with scales `1` and `2` on two micro-batches holding the same `1 × 1` gradient `(1)`, dividing the
    sum of the scaled moments by `2²` gives `5/4`, not `2` -/
theorem single_unscale_wrong :
    (1 / (2 : ℝ) ^ 2) • (covM ((1 : ℝ) • (1 : Matrix (Fin 1) (Fin 1) ℝ)) + covM ((2 : ℝ) • (1 : Matrix (Fin 1) (Fin 1) ℝ)))
      ≠ covM (1 : Matrix (Fin 1) (Fin 1) ℝ) + covM (1 : Matrix (Fin 1) (Fin 1) ℝ) := by
  intro h
  have h0 := congrFun (congrFun h 0) 0
  simp [covM, Matrix.smul_apply, Matrix.add_apply] at h0
  norm_num at h0

/-! ### the executable formulas (compared exactly with kfac.layers.utils.get_cov etc.) -/

/-- `get_cov(a)` = `(1/rows) aᵀ a` (the symmetrisation changes nothing) -/
theorem cov_bridge (rows k : ℕ) (a : KV.Alg.Mat) :
    toM k k (KV.Alg.cov rows k a) = (1 / (rows : ℚ)) • ((toM rows k a)ᵀ * toM rows k a) := by
  simp only [toM_eq, KV.Alg.cov, C01.toM_smul, C01.toM_add, C01.toM_tr, C01.toM_mul, Matrix.mul_smul]
  -- what is left is the symmetrisation `(c + cᵀ)/2` of `c = (1/rows) • aᵀ a`
  exact symm_id _ (smul_gram_symm _ _)

theorem ema_bridge (k : ℕ) (α : ℚ) (F M : KV.Alg.Mat) :
    toM k k (KV.Alg.ema k α F M) = α • toM k k F + (1 - α) • toM k k M := by
  simp only [toM_eq, KV.Alg.ema, C01.toM_add, C01.toM_smul]

/-- **accumulation**: one update folds in the MEAN of the accumulated micro-batch moments, starting
    from the identity when there is no previous factor; with nothing accumulated it does nothing -/
theorem update_mean (k : ℕ) (α : ℚ) (F : Option KV.Alg.Mat) (b : KV.Alg.Mat) (bs : List KV.Alg.Mat) :
    KV.Alg.updateFactor k α F [] = F ∧
    KV.Alg.updateFactor k α F [b] = some (KV.Alg.ema k α (F.getD (KV.Alg.ident k)) b) ∧
    (bs ≠ [] → KV.Alg.updateFactor k α F (b :: bs) =
      some (KV.Alg.ema k α (F.getD (KV.Alg.ident k))
        (KV.Alg.smul k k (1 / ((bs.length + 1 : ℕ) : ℚ)) (bs.foldl (KV.Alg.add k k) b)))) := by
  refine ⟨rfl, by simp [KV.Alg.updateFactor], fun hbs => ?_⟩
  have h1 : bs.length + 1 > 1 := Nat.succ_lt_succ (List.length_pos_iff.mpr hbs)
  simp only [KV.Alg.updateFactor, List.length_cons, h1, if_true]

theorem ident_bridge (k : ℕ) : toM k k (KV.Alg.ident k) = (1 : Matrix (Fin k) (Fin k) ℚ) :=
  C01.toM_ident k

open KV.Precond KV.Spec in
/-- the reference machine's factor update: per rank `ema α (previous or identity) (batch / count)`,
    then the average over ranks (a world of one keeps the rank's own value) -/
theorem spec_update_shape (c : SCfg) (s : SSt) (l : Nat) (α : Rat) (b : List V) (hl : l < s.layers.length)
    (hb : (getS s l).aBatch = some b) (hw : c.world ≠ 1) :
    let s' := Spec.updateReduce c s l true α
    let fv := ((getS s l).aFactor).getD (.ident l true)
    (getS s' l).aFactor = some (.ref s.defs.length) ∧
    s'.defs = s.defs ++ [avgOf (b.map fun br => V.ema α fv (if (getS s l).aCount > 1 then V.divN br (getS s l).aCount else br))] ∧
    (getS s' l).aBatch = none := by
  intro s' fv
  have hw' : (c.world == 1) = false := beq_eq_false_iff_ne.mpr hw
  have hs' : s' = setS { s with defs := s.defs ++ [avgOf (b.map fun br => V.ema α fv
      (if (getS s l).aCount > 1 then V.divN br (getS s l).aCount else br))] } l
      (urPut (getS s l) true (some (V.ref s.defs.length))) := by
    show Spec.updateReduce c s l true α = _
    rw [updateReduce_eq]
    simp only [urVals, sBatch, sFac, sCount, redOut, if_true, hb, hw', Bool.false_eq_true, if_false]
    rfl
  have hg : getS s' l = urPut (getS s l) true (some (V.ref s.defs.length)) := by
    rw [hs']; exact getS_setS_self _ _ _ hl
  refine ⟨?_, ?_, ?_⟩
  · rw [hg]; rfl
  · rw [hs']; rfl
  · rw [hg]; rfl

end KV.C04
