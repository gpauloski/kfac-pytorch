/-
C19 — hyper-parameter schedulers apply multiplicative factors deterministically.
Model: KV.Sched (schedStep / schedTrace / schedRun / ctorOk / expDecay) = kfac/scheduler.py,
kfac/hyperparams.py.
-/
import KfacVerif.Lemmas.ParamSched
import Mathlib.Data.Rat.Floor
import Mathlib.Algebra.BigOperators.Group.List.Basic
import Mathlib.Algebra.Order.Field.Basic

namespace KV.C19
open KV KV.Sched

/-- the step value a scheduler call uses: the explicit one if supplied, else the preconditioner's -/
def argOf (c : Nat × Option Nat) : Nat := c.2.getD c.1

/-- **float parameters**: after any sequence of calls the value is the initial value times the
    product of the factors `f(arg_i)` (left fold); stated for each of the four float parameters -/
theorem damping_after (l : Lambdas) (p : Params) (calls : List (Nat × Option Nat)) (f : Nat → Rat)
    (hf : l.damping = some f) :
    (schedRun l p calls).damping = p.damping * (calls.map fun c => f (argOf c)).prod := by
  rw [schedRun_eq, hf]; exact foldl_stepR_some f _ calls _

theorem decay_after (l : Lambdas) (p : Params) (calls : List (Nat × Option Nat)) (f : Nat → Rat)
    (hf : l.decay = some f) :
    (schedRun l p calls).decay = p.decay * (calls.map fun c => f (argOf c)).prod := by
  rw [schedRun_eq, hf]; exact foldl_stepR_some f _ calls _

theorem kl_after (l : Lambdas) (p : Params) (calls : List (Nat × Option Nat)) (f : Nat → Rat)
    (hf : l.kl = some f) :
    (schedRun l p calls).kl = p.kl * (calls.map fun c => f (argOf c)).prod := by
  rw [schedRun_eq, hf]; exact foldl_stepR_some f _ calls _

theorem lr_after (l : Lambdas) (p : Params) (calls : List (Nat × Option Nat)) (f : Nat → Rat)
    (hf : l.lr = some f) :
    (schedRun l p calls).lr = p.lr * (calls.map fun c => f (argOf c)).prod := by
  rw [schedRun_eq, hf]; exact foldl_stepR_some f _ calls _

/-- **interval parameters**: multiply then truncate toward zero, at every call -/
theorem fus_after (l : Lambdas) (p : Params) (calls : List (Nat × Option Nat)) (f : Nat → Rat)
    (hf : l.fus = some f) :
    (schedRun l p calls).fus = calls.foldl (fun v c => truncRat ((v : Rat) * f (argOf c))) p.fus := by
  rw [schedRun_eq, hf]; rfl

theorem ius_after (l : Lambdas) (p : Params) (calls : List (Nat × Option Nat)) (f : Nat → Rat)
    (hf : l.ius = some f) :
    (schedRun l p calls).ius = calls.foldl (fun v c => truncRat ((v : Rat) * f (argOf c))) p.ius := by
  rw [schedRun_eq, hf]; rfl

/-- `int()` is truncation toward zero -/
theorem truncRat_nonneg (q : Rat) (h : 0 ≤ q) : truncRat q = ⌊q⌋ := by
  rw [truncRat, Rat.floor_def', Int.tdiv_eq_ediv_of_nonneg (Rat.num_nonneg.mpr h)]

theorem truncRat_nonpos (q : Rat) (h : q ≤ 0) : truncRat q = ⌈q⌉ := by
  have hn : 0 ≤ -q.num := Int.neg_nonneg_of_nonpos (Rat.num_nonpos.mpr h)
  rw [truncRat, Rat.ceil_def', ← Int.tdiv_eq_ediv_of_nonneg hn, Int.neg_tdiv, neg_neg]

/-- **frame**: parameters without a factor function never change -/
theorem frame (l : Lambdas) (p : Params) (calls : List (Nat × Option Nat)) :
    (l.fus = none → (schedRun l p calls).fus = p.fus) ∧
    (l.ius = none → (schedRun l p calls).ius = p.ius) ∧
    (l.damping = none → (schedRun l p calls).damping = p.damping) ∧
    (l.decay = none → (schedRun l p calls).decay = p.decay) ∧
    (l.kl = none → (schedRun l p calls).kl = p.kl) ∧
    (l.lr = none → (schedRun l p calls).lr = p.lr) := by
  rw [schedRun_eq]
  refine ⟨?_, ?_, ?_, ?_, ?_, ?_⟩
  all_goals
    intro h
    simp only [h]
    exact List.foldl_fixed' (fun _ => rfl) calls

/-- **no cross-wiring**: a parameter depends on its own factor function only -/
theorem no_cross_wiring (l l' : Lambdas) (p : Params) (calls : List (Nat × Option Nat)) :
    (l.fus = l'.fus → (schedRun l p calls).fus = (schedRun l' p calls).fus) ∧
    (l.ius = l'.ius → (schedRun l p calls).ius = (schedRun l' p calls).ius) ∧
    (l.damping = l'.damping → (schedRun l p calls).damping = (schedRun l' p calls).damping) ∧
    (l.decay = l'.decay → (schedRun l p calls).decay = (schedRun l' p calls).decay) ∧
    (l.kl = l'.kl → (schedRun l p calls).kl = (schedRun l' p calls).kl) ∧
    (l.lr = l'.lr → (schedRun l p calls).lr = (schedRun l' p calls).lr) := by
  rw [schedRun_eq, schedRun_eq]
  refine ⟨?_, ?_, ?_, ?_, ?_, ?_⟩
  all_goals
    intro h
    simp only [h]

/-- the trace printed by the driver is the sequence of states of `schedRun` -/
theorem trace_last (l : Lambdas) (p : Params) (calls : List (Nat × Option Nat)) :
    (schedTrace l p calls).getLast? = if calls = [] then none else some (schedRun l p calls) := by
  induction calls generalizing p with
  | nil => rfl
  | cons c t ih =>
    cases t with
    | nil => rfl
    | cons d t' =>
      have h := ih (schedStep l p c.1 c.2)
      rw [if_neg (List.cons_ne_nil _ _)] at h
      rw [if_neg (List.cons_ne_nil _ _), schedRun_cons, ← h]
      exact List.getLast?_cons_cons

/-- **constructor**: accepted iff no scheduled parameter is already a function -/
theorem ctor_refuses (scheduled callable : List Bool) (h : scheduled.length = callable.length) :
    ctorOk scheduled callable = true ↔
      ∀ i, i < scheduled.length → ¬ (scheduled.getD i false = true ∧ callable.getD i false = true) := by
  have _ := h  -- not needed: past the end of `scheduled` the conjunction is false
  refine (ctorOk_iff _ _).trans ⟨fun h i _ => h i, fun h i => ?_⟩
  by_cases hi : i < scheduled.length
  · exact h i hi
  · simp [List.getD_eq_getElem?_getD, List.getElem?_eq_none (Nat.le_of_not_lt hi)]

/-! exponential-decay averaging schedule `min(1 - 1/max(k,1), cap)` -/

theorem expDecay_zero (cap : Rat) : expDecay cap 0 = expDecay cap 1 := rfl

theorem expDecay_monotone (cap : Rat) {k k' : Nat} (h : k ≤ k') : expDecay cap k ≤ expDecay cap k' := by
  have h1 : (0 : Rat) < ((max k 1 : Nat) : Rat) := Nat.cast_pos.2 (Nat.lt_of_lt_of_le Nat.one_pos (Nat.le_max_right k 1))
  have h2 : ((max k 1 : Nat) : Rat) ≤ ((max k' 1 : Nat) : Rat) := Nat.cast_le.2 (max_le_max h le_rfl)
  exact min_le_min (sub_le_sub_left (one_div_le_one_div_of_le h1 h2) 1) le_rfl

theorem expDecay_range (cap : Rat) (hc : 0 < cap) (k : Nat) : 0 ≤ expDecay cap k ∧ expDecay cap k ≤ cap := by
  refine ⟨?_, min_le_right _ _⟩
  have h0 : expDecay cap 0 = 0 := by
    show min (1 - 1 / ((1 : Nat) : Rat)) cap = 0
    rw [Nat.cast_one, div_one, sub_self, min_eq_left hc.le]
  exact h0 ▸ expDecay_monotone cap (Nat.zero_le k)

theorem expDecay_spec (cap : Rat) (k : Nat) (hk : 1 ≤ k) : expDecay cap k = min (1 - 1 / (k : Rat)) cap := by
  rw [expDecay, Nat.max_eq_left hk]

end KV.C19
