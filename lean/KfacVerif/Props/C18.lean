/-
C18 — GPT-NeoX checkpoints gather and restore every layer factor.
Bookkeeping theorems about M-NeoxLayer's checkpoint part (who contributes which layer, what the
merged state contains, who restores, which collectives every rank enters) for every topology and
layer placement, given the assignment facts of C12 (one inverse worker per layer, located in the
layer's pipeline stage); then the same at the level of values: what the state holds, what a load leaves
behind.  Of "training resumes as in C09" the data flow is proved for model-parallel degree 1
(`restore_everywhere_mp1`, `roundtrip_all_agree_mp1`: every rank is its own factor worker, so all ranks
of a stage agree after a load); for degree > 1 the other ranks keep what they had (`load_frame`), which
is finding F2 in DESIGN.md.
-/
import KfacVerif.Lemmas.NeoxLayerL

namespace KV.C18
open KV KV.NeoxL

/-- what C12 gives: every layer held by some rank has its inverse worker among the ranks `< world`
    that hold the layer -/
structure PlaceOK (world : Nat) (layersOf : Nat → List String) (inv : String → Nat) : Prop where
  inv_holds : ∀ r n, r < world → n ∈ layersOf r → inv n < world ∧ n ∈ layersOf (inv n)

/-- **gather complete**: the merged state holds exactly the layers of the world, each once -/
theorem gather_complete (world : Nat) (layersOf : Nat → List String) (inv : String → Nat)
    (h : PlaceOK world layersOf inv) (n : String) :
    n ∈ merged world layersOf inv ↔ ∃ r, r < world ∧ n ∈ layersOf r := by
  unfold merged
  rw [List.mem_eraseDups, List.mem_flatMap]
  constructor
  · rintro ⟨r, hr, hn⟩
    exact ⟨r, List.mem_range.mp hr, ((mem_partition _ _ _ _).mp hn).1⟩
  · rintro ⟨r, hr, hn⟩
    have := h.inv_holds r n hr hn
    exact ⟨inv n, List.mem_range.mpr this.1, (mem_partition _ _ _ _).mpr ⟨this.2, rfl⟩⟩

theorem gather_once (world : Nat) (layersOf : Nat → List String) (inv : String → Nat) :
    (merged world layersOf inv).Nodup :=
  nodup_eraseDups _

/-- every layer is contributed by its inverse worker and by nobody else -/
theorem contributed_by_inverse_worker (layersOf : Nat → List String) (inv : String → Nat) (r : Nat) (n : String) :
    n ∈ partition layersOf inv r ↔ n ∈ layersOf r ∧ inv n = r :=
  mem_partition layersOf inv r n

/-- **restore on factor workers**: a rank restores a layer iff it holds it and is its factor worker -/
theorem restore_on_factor_workers (layersOf : Nat → List String) (fw : Nat → String → Nat) (r : Nat) (n : String) :
    n ∈ restores layersOf fw r ↔ n ∈ layersOf r ∧ fw r n = r :=
  mem_restores layersOf fw r n

/-- with model-parallel degree 1 every rank is its own factor worker, so every rank that holds a
    layer restores it -/
theorem restore_everywhere_mp1 (layersOf : Nat → List String) (fw : Nat → String → Nat) (r : Nat)
    (hfw : ∀ n, fw r n = r) : restores layersOf fw r = layersOf r := by
  simp [restores, hfw]

/-- **all ranks take part in the same collectives while saving and loading**: the lists do not
    depend on the rank (they are functions of the mode only), in-memory saving is
    new_group(gloo) → all_gather_object → barrier, directory mode a single barrier, loading a final
    barrier in memory mode and nothing in directory mode -/
theorem save_load_collectives :
    saveColls true false = [.newGroupGloo, .allGatherObject, .barrier] ∧ saveColls true true = [.barrier] ∧
    saveColls false false = [] ∧ saveColls false true = [] ∧
    loadColls true false = [.barrier] ∧ loadColls true true = [] ∧ loadColls false false = [] :=
  ⟨rfl, rfl, rfl, rfl, rfl, rfl, rfl⟩

/-- **the saved state holds, for every layer of the world, exactly what that layer's inverse worker holds** —
    on every rank (the merged dict is a function of the gathered partitions only), whatever the other ranks
    hold for the layer and in whatever order the partitions are walked -/
theorem merged_value {α : Type} (world : Nat) (layersOf : Nat → List String) (inv : String → Nat)
    (held : Nat → String → α) (h : PlaceOK world layersOf inv) (n : String)
    (hn : ∃ r, r < world ∧ n ∈ layersOf r) :
    mergedVal world layersOf inv held n = some (held (inv n) n) := by
  obtain ⟨r, hr, hnr⟩ := hn
  rw [mergedVal_eq, if_pos (h.inv_holds r n hr hnr)]

/-- and nothing else: a name no rank holds is not in the state -/
theorem merged_value_none {α : Type} (world : Nat) (layersOf : Nat → List String) (inv : String → Nat)
    (held : Nat → String → α) (n : String) (hn : ¬ ∃ r, r < world ∧ n ∈ layersOf r) :
    mergedVal world layersOf inv held n = none := by
  rw [mergedVal_eq, if_neg fun h => hn ⟨_, h⟩]

/-- what the other ranks hold for a layer never reaches the state: two worlds whose inverse workers hold the
    same values save the same state -/
theorem merged_value_only_inverse_worker {α : Type} (world : Nat) (layersOf : Nat → List String) (inv : String → Nat)
    (held held' : Nat → String → α) (h : PlaceOK world layersOf inv)
    (hh : ∀ n, held (inv n) n = held' (inv n) n) (n : String) :
    mergedVal world layersOf inv held n = mergedVal world layersOf inv held' n := by
  have _ := h  -- not needed by the proof
  rw [mergedVal_eq, mergedVal_eq, hh]

/-- **save → load round trip**: after loading the saved state, every factor worker of a layer holds what the
    layer's inverse worker held at the save, whatever it held before the load -/
theorem save_load_roundtrip {α : Type} (world : Nat) (layersOf : Nat → List String) (inv : String → Nat)
    (fw : Nat → String → Nat) (held old : Nat → String → α) (h : PlaceOK world layersOf inv)
    (r : Nat) (n : String) (hr : r < world) (hn : n ∈ layersOf r) (hfw : fw r n = r) :
    loadVal layersOf fw (mergedVal world layersOf inv held) old r n = held (inv n) n := by
  rw [loadVal_eq, if_pos ⟨hn, hfw⟩, merged_value world layersOf inv held h n ⟨r, hr, hn⟩]
  rfl

/-- frame: a load changes nothing on a rank that is not the factor worker of the layer (or does not hold it) -/
theorem load_frame {α : Type} (layersOf : Nat → List String) (fw : Nat → String → Nat)
    (state : String → Option α) (old : Nat → String → α) (r : Nat) (n : String)
    (h : n ∉ layersOf r ∨ fw r n ≠ r) : loadVal layersOf fw state old r n = old r n := by
  rw [loadVal_eq, if_neg fun hm => h.elim (· hm.1) (· hm.2)]

/-- a layer missing from the state is left as it is (the code walks the names FOUND in the state) -/
theorem load_absent {α : Type} (layersOf : Nat → List String) (fw : Nat → String → Nat)
    (state : String → Option α) (old : Nat → String → α) (r : Nat) (n : String)
    (hs : state n = none) : loadVal layersOf fw state old r n = old r n := by
  rw [loadVal_eq, hs]
  split <;> rfl

/-- with model-parallel degree 1 every rank that holds a layer ends with the inverse worker's value: all
    ranks of a stage agree after a load -/
theorem roundtrip_all_agree_mp1 {α : Type} (world : Nat) (layersOf : Nat → List String) (inv : String → Nat)
    (fw : Nat → String → Nat) (held old : Nat → String → α) (h : PlaceOK world layersOf inv)
    (hfw : ∀ r n, fw r n = r) (r r' : Nat) (n : String) (hr : r < world) (hr' : r' < world)
    (hn : n ∈ layersOf r) (hn' : n ∈ layersOf r') :
    loadVal layersOf fw (mergedVal world layersOf inv held) old r n =
      loadVal layersOf fw (mergedVal world layersOf inv held) old r' n := by
  rw [save_load_roundtrip world layersOf inv fw held old h r n hr hn (hfw r n),
      save_load_roundtrip world layersOf inv fw held old h r' n hr' hn' (hfw r' n)]

end KV.C18
