/-
C06 — KAISA work assignment is well-formed and identical on every rank.
The model (`KV.Kaisa.Cfg` and its queries) mirrors `KAISAAssignment`; CPython's set
iteration order is the parameter `gOrder`, and every theorem holds for EVERY order
satisfying `OK` (a reordering of the columns with reordered members).
-/
import KfacVerif.Lemmas.Grid
import Mathlib.Tactic.NormNum.Ineq
import Mathlib.Algebra.Order.Field.Basic

namespace KV.C06
open KV KV.Kaisa

/-! ### the grid: both families partition the world into equal parts -/

theorem cols_length {w k : Nat} (hk : 0 < k) (hd : k ∣ w) :
    (cols w k).length = w / k ∧ ∀ g ∈ cols w k, g.length = k ∧ g.Nodup ∧ ∀ r ∈ g, r < w :=
  cols_length' hk hd

theorem rows_length {w k : Nat} (hk : 0 < k) (hd : k ∣ w) :
    (rows w k).length = k ∧ ∀ g ∈ rows w k, g.length = w / k ∧ g.Nodup ∧ ∀ r ∈ g, r < w :=
  rows_length' hk hd

/-- every rank lies in exactly one gradient-worker group (column) -/
theorem cols_cover_unique {w k : Nat} (hk : 0 < k) (hd : k ∣ w) {r : Nat} (hr : r < w) :
    ∃ g ∈ cols w k, r ∈ g ∧ ∀ g' ∈ cols w k, r ∈ g' → g' = g :=
  cols_cover_unique' hk hd hr

/-- every rank lies in exactly one gradient-receiver group (row) -/
theorem rows_cover_unique {w k : Nat} (hk : 0 < k) (hd : k ∣ w) {r : Nat} (hr : r < w) :
    ∃ g ∈ rows w k, r ∈ g ∧ ∀ g' ∈ rows w k, r ∈ g' → g' = g :=
  rows_cover_unique' hk hd hr

/-- a row and a column meet in exactly one rank -/
theorem row_col_meet_once {w k : Nat} (hk : 0 < k) (hd : k ∣ w) {R C : List Nat}
    (hR : R ∈ rows w k) (hC : C ∈ cols w k) :
    ∃ r, r ∈ R ∧ r ∈ C ∧ ∀ r', r' ∈ R → r' ∈ C → r' = r :=
  row_col_meet_once' hk hd hR hC

/-- every layer's gradient-worker group is one of the columns -/
theorem workerGroup_is_col {c : Cfg} (h : OK c) {l : String × List (String × Nat)} (hl : l ∈ c.work) :
    c.workerGroup l.1 ∈ cols c.w c.k :=
  (assign_core h hl).1

/-- all inverse workers of a layer lie in that layer's gradient-worker group -/
theorem inv_worker_in_worker_group {c : Cfg} (h : OK c) {l : String × List (String × Nat)}
    (hl : l ∈ c.work) {f : String × Nat} (hf : f ∈ l.2) :
    ∃ r, c.invWorker l.1 f.1 = some r ∧ r ∈ c.workerGroup l.1 :=
  (assign_core h hl).2 f hf

/-- the receiver group of a rank is the row containing it -/
theorem receiverGroup_is_row {c : Cfg} (h : OK c) {loc : Nat} (hloc : loc < c.w) :
    c.receiverGroup loc ∈ rows c.w c.k ∧ loc ∈ c.receiverGroup loc :=
  receiverGroup_spec h.kpos h.dvd hloc

/-- every rank has exactly one gradient source per layer: a gradient worker of the layer inside
    the rank's own receiver group, the rank itself when it is a gradient worker -/
theorem src_spec {c : Cfg} (h : OK c) {loc : Nat} (hloc : loc < c.w)
    {l : String × List (String × Nat)} (hl : l ∈ c.work) :
    ∃ s, c.srcGradWorker loc l.1 = some s ∧ s ∈ c.workerGroup l.1 ∧ s ∈ c.receiverGroup loc ∧
      (∀ s', s' ∈ c.workerGroup l.1 → s' ∈ c.receiverGroup loc → s' = s) ∧
      (c.isGradWorker loc l.1 = true → s = loc) :=
  src_core h.kpos h.dvd hloc (workerGroup_is_col h hl)

/-- the source of a rank is itself a gradient worker (so it does hold a preconditioned gradient) -/
theorem src_is_worker {c : Cfg} (h : OK c) {loc : Nat} (hloc : loc < c.w)
    {l : String × List (String × Nat)} (hl : l ∈ c.work) {s : Nat}
    (hs : c.srcGradWorker loc l.1 = some s) : c.isGradWorker s l.1 = true := by
  have _ := h; have _ := hloc; have _ := hl  -- not needed: `find?` returns an element that passes the test
  unfold Cfg.srcGradWorker at hs
  have := List.find?_some hs
  simpa [Cfg.isGradWorker] using this

/-- nothing that identifies work depends on the local rank: `assign`, `invWorker`,
    `workerGroup`, `groupsCreated` do not take it (definitional); what does depend on it is
    exactly `receiverGroup`, `isGradWorker`, `srcGradWorker`. -/
theorem rank_independent (c : Cfg) (_loc _loc' : Nat) (l f : String) :
    c.invWorker l f = c.invWorker l f ∧ c.workerGroup l = c.workerGroup l := ⟨rfl, rfl⟩

theorem flags (c : Cfg) :
    (c.broadcastGradients = true ↔ c.k < c.w) ∧ (c.broadcastInverses = true ↔ 1 < c.k) := by
  simp [Cfg.broadcastGradients, Cfg.broadcastInverses]

theorem strategy_spec (w k : Nat) :
    (strategyOf w k = .commOpt ↔ k = w) ∧
    (strategyOf w k = .memOpt ↔ k ≠ w ∧ k ≤ 1) ∧
    (strategyOf w k = .hybridOpt ↔ k ≠ w ∧ 1 < k) := by
  unfold strategyOf
  by_cases h1 : k = w <;> by_cases h2 : k ≤ 1 <;> simp [h1, h2]
  all_goals omega

/-- integer side: every `k ∣ w` (as the exact fraction `k/w`) passes validation with `k` workers -/
theorem validate_accepts {w k loc : Nat} (hk : 0 < k) (hd : k ∣ w) (hw : 0 < w) (hloc : loc < w) :
    validate w k w loc = .ok k := by
  have hkw : k ≤ w := Nat.le_of_dvd hw hd
  have h1 : ¬ w = 0 := by omega
  have h2 : ¬ k > w := by omega
  have h3 : ¬ w * k < w := by
    have : w * 1 ≤ w * k := Nat.mul_le_mul_left w hk
    omega
  have h4 : w * k / w = k := Nat.mul_div_cancel_left k hw
  have h5 : (w * k) % w = 0 := Nat.mul_mod_right w k
  have h6 : w % k = 0 := Nat.mod_eq_zero_of_dvd hd
  have h7 : ¬ loc ≥ w := by omega
  simp [validate, h1, h2, h3, h4, h5, h6, h7]

/-- a fraction whose product with the world size is not an integer is rejected -/
theorem validate_rejects_nonintegral {w num den loc : Nat} (hden : 0 < den) (hle : den ≤ w * num)
    (hnd : (w * num) % den ≠ 0) : validate w num den loc = .valueError := by
  rw [validate, if_neg (Nat.ne_of_gt hden)]
  -- only the test `num > den` stands before the one that rejects (`split` on the nest is slow to check)
  by_cases h : num > den
  · exact if_pos h
  · rw [if_neg h]; exact if_pos ⟨hle, hnd⟩

/-- float side, standard rounding model: with `x = fl(w * fl(k / w)) = k (1+δ₁)(1+δ₂)`,
    `|δᵢ| ≤ 2⁻⁵³`, `1 ≤ k ≤ 2³⁰`: the value `max(1, x)` the repaired code tests is within
    `10⁻⁶` of `k` and strictly closer to `k` than `1/2` (so `round` returns `k` whatever the
    tie-breaking rule). Hence every fraction `k / world_size` with `k ∣ world_size` is accepted. -/
theorem fraction_accepted (k : ℕ) (δ₁ δ₂ : ℚ) (hk1 : 1 ≤ k) (hk : k ≤ 2 ^ 30)
    (h1 : |δ₁| ≤ 1 / 2 ^ 53) (h2 : |δ₂| ≤ 1 / 2 ^ 53) :
    let x : ℚ := (k : ℚ) * (1 + δ₁) * (1 + δ₂)
    |max 1 x - (k : ℚ)| ≤ 1 / 10 ^ 6 ∧ |max 1 x - (k : ℚ)| < 1 / 2 := by
  have main := (two_roundings (Nat.one_le_cast.2 hk1) (by exact_mod_cast hk) h1 h2).trans
    (by norm_num : (2 : ℚ) ^ 30 * (1 / 2 ^ 53 + 1 / 2 ^ 53 + 1 / 2 ^ 53 * (1 / 2 ^ 53)) ≤ 1 / 10 ^ 6)
  exact ⟨main, main.trans_lt (by norm_num)⟩

/-- a product that is not an integer is at least `1/den` away from every integer; with
    `den ≤ 10⁵` that is ≥ 10⁻⁵ > 10⁻⁶ + float error, so the tolerance test rejects it -/
theorem nonintegral_far (n den : ℕ) (m : ℤ) (hden : 0 < den) (hnd : n % den ≠ 0) :
    (1 : ℚ) / den ≤ |(n : ℚ) / den - m| := by
  have hdq : (0 : ℚ) < den := Nat.cast_pos.2 hden
  -- `n - m * den` is a non-zero integer …
  have hz : (n : ℤ) - m * den ≠ 0 := fun h =>
    hnd (Nat.mod_eq_zero_of_dvd (Int.natCast_dvd_natCast.1 (Dvd.intro_left m (sub_eq_zero.1 h).symm)))
  have h1 : (1 : ℚ) ≤ |(((n : ℤ) - m * den : ℤ) : ℚ)| := by
    rw [← Int.cast_abs, ← Int.cast_one, Int.cast_le]
    exact Int.one_le_abs hz
  -- … and the distance is its absolute value over `den`
  have heq : (n : ℚ) / den - m = (((n : ℤ) - m * den : ℤ) : ℚ) / den := by
    rw [Int.cast_sub, Int.cast_mul, Int.cast_natCast, Int.cast_natCast, sub_div, mul_div_assoc,
      div_self hdq.ne', mul_one]
  rw [heq, abs_div, abs_of_pos hdq]
  exact div_le_div_of_nonneg_right h1 hdq.le

end KV.C06
