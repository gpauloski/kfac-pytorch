/-
C12 — GPT-NeoX assignment is consistent across the 3-D topology.
Model: KV.Neox (Topo, axis group lists, stagePeers, place, Cfg and its queries) =
kfac/gpt_neox/assignment.py on the (stub) PipeModelDataParallelTopology.
-/
import KfacVerif.Lemmas.NeoxTopo

namespace KV.C12
open KV KV.Neox

theorem coord_rank (t : Topo) (h : TopoOK t) {p d m : Nat} (hp : p < t.pp) (hd : d < t.dp) (hm : m < t.mp) :
    t.rankOf p d m < t.world ∧ t.pipeOf (t.rankOf p d m) = p ∧ t.dataOf (t.rankOf p d m) = d ∧
      t.modelOf (t.rankOf p d m) = m := by
  have _ := h  -- not needed: `d < t.dp` and `m < t.mp` already make the radices positive
  exact ⟨rankOf_lt hp hd hm, pipeOf_rankOf hd hm, dataOf_rankOf hd hm, modelOf_rankOf hm⟩

theorem rank_coord (t : Topo) (h : TopoOK t) {r : Nat} (hr : r < t.world) :
    t.pipeOf r < t.pp ∧ t.dataOf r < t.dp ∧ t.modelOf r < t.mp ∧
      t.rankOf (t.pipeOf r) (t.dataOf r) (t.modelOf r) = r :=
  ⟨pipeOf_lt hr, dataOf_lt h r, modelOf_lt h r, rankOf_coords t r⟩

/-- the data-parallel peers of a rank are exactly the ranks sharing its pipe and model coordinates -/
theorem dataPeers_spec (c : Cfg) (h : TopoOK c.t) {loc : Nat} (hl : loc < c.t.world) (r : Nat) :
    r ∈ c.dataPeers loc ↔ r < c.t.world ∧ c.t.pipeOf r = c.t.pipeOf loc ∧ c.t.modelOf r = c.t.modelOf loc :=
  mem_dataPeers c h hl r

/-- the model-parallel peers of a rank are exactly the ranks sharing its pipe and data coordinates -/
theorem modelPeers_spec (c : Cfg) (h : TopoOK c.t) {loc : Nat} (hl : loc < c.t.world) (r : Nat) :
    r ∈ c.modelPeers loc ↔ r < c.t.world ∧ c.t.pipeOf r = c.t.pipeOf loc ∧ c.t.dataOf r = c.t.dataOf loc :=
  mem_modelPeers c h hl r

theorem stagePeers_spec (t : Topo) (p r : Nat) :
    r ∈ t.stagePeers p ↔ r < t.world ∧ t.pipeOf r = p :=
  mem_stagePeers t p r

/-- **stage agreement**: the inverse worker is a function of the cost dictionary and the pipeline
    stage only — two ranks of the same stage compute the same answer -/
theorem stage_agrees (c : Cfg) {r r' : Nat} (h : c.t.pipeOf r = c.t.pipeOf r') (layer : String) :
    c.invWorker (c.t.pipeOf r) layer = c.invWorker (c.t.pipeOf r') layer := by
  rw [h]

/-- every layer of the dictionary gets an inverse worker, and it is a rank of the stage -/
theorem inv_worker_in_stage (c : Cfg) (h : TopoOK c.t) (hw : WorkOK c.work) {p : Nat} (hp : p < c.t.pp)
    {l : String × List (String × Nat)} (hl : l ∈ c.work) :
    ∃ inv, c.invWorker p l.1 = some inv ∧ inv ∈ c.t.stagePeers p := by
  have _ := hw  -- not needed by the proof (lookup returns the first match)
  obtain ⟨inv, hinv, hst⟩ := invWorker_mem_stage c h hp hl
  exact ⟨inv, hinv, (mem_stagePeers _ _ _).2 hst⟩

/-- **least-loaded greedy**: every placement goes to the FIRST index of minimum load -/
theorem place_first_min (loads : List Nat) (hne : loads ≠ []) (l : String) (cst : Nat) (t : List (String × Nat)) :
    ((place loads ((l, cst) :: t)).2.head? = some (l, argminIdx loads)) ∧
    argminIdx loads < loads.length ∧
    (∀ j, j < loads.length → loads.getD (argminIdx loads) 0 ≤ loads.getD j 0) ∧
    (∀ j, j < argminIdx loads → loads.getD (argminIdx loads) 0 < loads.getD j 0) := by
  rw [place_cons]
  exact ⟨rfl, argminIdx_spec loads hne⟩

/-- layers are taken in `(cost, name)` descending order -/
theorem sortedWork_sorted (work : Work) :
    (sortedWork work).Pairwise (fun a b => layerLe a b = true) ∧
    (sortedWork work).Perm (work.map fun l => (l.1, sumCosts l.2)) :=
  ⟨sortBy_sorted layerLe layerLe_total layerLe_trans _, sortBy_perm layerLe _⟩

/-- at the end two stage ranks differ in load by at most the largest layer cost -/
theorem stage_balance (n : Nat) (hn : 0 < n) (items : List (String × Nat)) :
    ∀ i j, i < n → j < n →
      (place (List.replicate n 0) items).1.getD i 0
        ≤ (place (List.replicate n 0) items).1.getD j 0 + (items.map (·.2)).foldl max 0 := by
  have hne : List.replicate n 0 ≠ [] := fun e => Nat.ne_of_gt hn ((List.replicate_eq_nil_iff _).1 e)
  obtain ⟨h1, h2⟩ := place_bal items (List.replicate n 0) ((items.map (·.2)).foldl max 0) hne
    (fun x hx => le_foldl_max_map (·.2) hx)
    (fun i j _ _ => by rw [getD_replicate_self, getD_replicate_self]; exact Nat.zero_le _)
  rw [List.length_replicate] at h1
  intro i j hi hj
  exact h2 i j (h1.symm ▸ hi) (h1.symm ▸ hj)

/-- **factor worker**: lies in the rank's own model-parallel group and in the inverse worker's
    data-parallel group, and is the only such rank -/
theorem factor_worker_spec (c : Cfg) (h : TopoOK c.t) (hw : WorkOK c.work) {loc : Nat} (hl : loc < c.t.world)
    {l : String × List (String × Nat)} (hlw : l ∈ c.work) :
    ∃ inv fw, c.invWorker (c.t.pipeOf loc) l.1 = some inv ∧ c.factorWorker loc l.1 = some fw ∧
      fw ∈ c.modelPeers loc ∧ fw ∈ c.dataPeers inv ∧
      ∀ x, x ∈ c.modelPeers loc → x ∈ c.dataPeers inv → x = fw := by
  have _ := hw  -- not needed by the proof
  obtain ⟨inv, hinv, hi, hip⟩ := invWorker_mem_stage c h (pipeOf_lt hl) hlw
  have hx := mem_cross c h hl hi hip
  exact ⟨inv, _, hinv, factorWorker_eq h hl hinv hi hip, ((hx _).2 rfl).1, ((hx _).2 rfl).2,
    fun x h1 h2 => (hx x).1 ⟨h1, h2⟩⟩

/-- **gradient source**: lies in the rank's own data-parallel group, holds the same model-parallel
    shard (same model coordinate), is a model-parallel peer of the inverse worker, and is unique -/
theorem src_spec (c : Cfg) (h : TopoOK c.t) (hw : WorkOK c.work) {loc : Nat} (hl : loc < c.t.world)
    {l : String × List (String × Nat)} (hlw : l ∈ c.work) :
    ∃ inv s, c.invWorker (c.t.pipeOf loc) l.1 = some inv ∧ c.srcGradWorker loc l.1 = some s ∧
      s ∈ c.dataPeers loc ∧ c.t.modelOf s = c.t.modelOf loc ∧ s ∈ c.modelPeers inv ∧
      c.isGradWorker s l.1 = true ∧
      ∀ x, x ∈ c.dataPeers loc → x ∈ c.modelPeers inv → x = s := by
  have _ := hw  -- not needed by the proof
  obtain ⟨inv, hinv, hi, hip⟩ := invWorker_mem_stage c h (pipeOf_lt hl) hlw
  have hx := mem_cross c h hi hl hip.symm
  rw [hip] at hx
  have hd := dataOf_lt h inv
  have hm := modelOf_lt h loc
  -- the source is itself a gradient worker: seen from it, the inverse worker is the same
  have hinv' : c.invWorker (c.t.pipeOf (c.t.rankOf (c.t.pipeOf loc) (c.t.dataOf inv) (c.t.modelOf loc))) l.1 =
      some inv := by rw [pipeOf_rankOf hd hm]; exact hinv
  exact ⟨inv, _, hinv, srcGradWorker_eq h hl hinv hi hip, ((hx _).2 rfl).2, modelOf_rankOf hm, ((hx _).2 rfl).1,
    (isGradWorker_iff h (rankOf_lt (pipeOf_lt hl) hd hm) hinv' hi).2 ((hx _).2 rfl).1,
    fun x h1 h2 => (hx x).1 ⟨h2, h1⟩⟩

/-- **gradient workers** are exactly the model-parallel peers of the inverse worker -/
theorem grad_workers_are_mp_peers (c : Cfg) (h : TopoOK c.t) (hw : WorkOK c.work) {loc : Nat}
    (hl : loc < c.t.world) {l : String × List (String × Nat)} (hlw : l ∈ c.work) :
    ∃ inv, c.invWorker (c.t.pipeOf loc) l.1 = some inv ∧
      (c.isGradWorker loc l.1 = true ↔ loc ∈ c.modelPeers inv) := by
  have _ := hw  -- not needed by the proof
  obtain ⟨inv, hinv, hi, _⟩ := invWorker_mem_stage c h (pipeOf_lt hl) hlw
  exact ⟨inv, hinv, isGradWorker_iff h hl hinv hi⟩

/-- a reused handle has exactly the stage peers as members -/
theorem peer_group_reuse_correct (c : Cfg) (h : TopoOK c.t) {loc : Nat} (hl : loc < c.t.world) :
    (c.peerGroup loc = .modelGroup → ∀ r, r ∈ c.modelPeers loc ↔ r ∈ c.t.stagePeers (c.t.pipeOf loc)) ∧
    (c.peerGroup loc = .dataGroup → ∀ r, r ∈ c.dataPeers loc ↔ r ∈ c.t.stagePeers (c.t.pipeOf loc)) ∧
    (∀ m, c.peerGroup loc = .created m → m = c.t.stagePeers (c.t.pipeOf loc)) := by
  have _ := h; have _ := hl  -- not needed by the proof (holds by unfolding `sameSet`)
  unfold Cfg.peerGroup
  by_cases h1 : sameSet (c.t.stagePeers (c.t.pipeOf loc)) (c.modelPeers loc) = true
  · rw [if_pos h1]
    exact ⟨fun _ r => ((sameSet_iff _ _).1 h1 r).symm, nofun, nofun⟩
  rw [if_neg h1]
  by_cases h2 : sameSet (c.t.stagePeers (c.t.pipeOf loc)) (c.dataPeers loc) = true
  · rw [if_pos h2]
    exact ⟨nofun, fun _ r => ((sameSet_iff _ _).1 h2 r).symm, nofun⟩
  · rw [if_neg h2]
    exact ⟨nofun, nofun, fun m hm => (PeerGroup.created.inj hm).symm⟩

/-- which branch is taken depends on the topology only: model group iff dp = 1, data group iff
    dp ≠ 1 ∧ mp = 1 — the same on every rank -/
theorem peer_group_branch (c : Cfg) (h : TopoOK c.t) {loc : Nat} (hl : loc < c.t.world) :
    (c.peerGroup loc = .modelGroup ↔ c.t.dp = 1) ∧
    (c.peerGroup loc = .dataGroup ↔ c.t.dp ≠ 1 ∧ c.t.mp = 1) := by
  rw [peerGroup_eq c h hl]
  by_cases h1 : c.t.dp = 1
  · simp [h1]
  · by_cases h2 : c.t.mp = 1 <;> simp [h1, h2]

/-- **same order on every rank**: all ranks issue the same `new_group` calls in the same order -/
theorem new_group_same_order (c : Cfg) (h : TopoOK c.t) {r r' : Nat} (hr : r < c.t.world) (hr' : r' < c.t.world) :
    c.newGroupCalls r = c.newGroupCalls r' := by
  rw [newGroupCalls_eq c h hr, newGroupCalls_eq c h hr']

/-- the rank's own stage is among the groups it creates (so it does obtain a handle) -/
theorem own_stage_created (c : Cfg) (h : TopoOK c.t) {loc : Nat} (hl : loc < c.t.world) (m : List Nat)
    (hm : c.peerGroup loc = .created m) : m ∈ c.newGroupCalls loc := by
  obtain rfl := (peer_group_reuse_correct c h hl).2.2 m hm
  rw [Cfg.newGroupCalls, hm]
  exact List.mem_map.2 ⟨_, List.mem_range.2 (pipeOf_lt hl), rfl⟩

end KV.C12
