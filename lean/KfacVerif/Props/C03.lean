/-
C03 — all ranks issue matching collectives and no rank ever stalls.

Part 1 (generic, M-Sched): for ANY number of ranks, groups and operations and ANY scheduler:
   invariant ⇒ progress (no deadlock), termination, unique final state in which every event
   completed, and per-group matching.
Part 2 (bridge): a well-formed global script (KV.Sched2.wf) induces per-rank programs satisfying
   the invariant.
Part 3 (kfac): the script emitted by the M-Precond state machine is well-formed for every
   configuration, hyper-parameter schedule and history of whole training iterations.
Part 4 (M-SchedVal): what is computed does not depend on the interleaving.
-/
import KfacVerif.Lemmas.PrecondInv
import KfacVerif.Lemmas.Confluence

namespace KV.C03
open KV KV.Sched2 KV.Precond

/-! ### Part 1: every schedule -/

/-- executions under an arbitrary scheduler -/
inductive Reach (S : Events) : Sched2.St → Sched2.St → Prop where
  | refl (s : Sched2.St) : Reach S s s
  | tail {s t u : Sched2.St} : Reach S s t → Step S t u → Reach S s u

theorem inv_reachable {S : Events} {n : Nat} {s s' : Sched2.St} (hI : SInv S n s) (h : Reach S s s') :
    SInv S n s' := by
  induction h with
  | refl => exact hI
  | tail _ hs ih => exact ih.step hs

/-- **no deadlock, under every interleaving**: a reachable state with unfinished work always has
    an enabled step -/
theorem no_deadlock {S : Events} {n : Nat} {s0 s : Sched2.St} (hI : SInv S n s0) (h : Reach S s0 s)
    (hne : ∃ r, s.rem r ≠ []) : ∃ s', Step S s s' :=
  progress (inv_reachable hI h) hne

/-- remaining work -/
def size (n : Nat) (s : Sched2.St) : Nat := ((List.range n).map fun r => (s.rem r).length).sum

/-- **termination**: every step consumes one action, so every execution is finite -/
theorem step_decreases {S : Events} {n : Nat} {s s' : Sched2.St} (hI : SInv S n s) (hs : Step S s s') :
    size n s' + 1 = size n s := by
  obtain ⟨r, a, t, h, rfl⟩ := hs.inv
  have hrn : r < n := Nat.lt_of_not_le fun hn => absurd (hI.idle r hn) (h ▸ List.cons_ne_nil a t)
  refine sum_map_range_update _ _ n r hrn (fun q hq => ?_) ?_
  · simp only [hq, ↓reduceIte]
  · simp only [↓reduceIte, h, List.length_cons]

/-- **unique final state; every started operation completes**: a state without enabled step has
    run every program to the end, every rank has issued exactly its events in the global order,
    and every event is complete -/
theorem terminal_all_done {S : Events} {n : Nat} {s : Sched2.St} (hI : SInv S n s)
    (hterm : ¬ ∃ s', Step S s s') :
    (∀ r, s.rem r = []) ∧ (∀ r, r < n → s.iss r = idsOf S r) ∧ (∀ i, i < S.length → complete S s i) := by
  have h1 : ∀ r, s.rem r = [] := fun r =>
    Classical.byContradiction fun hr => hterm (progress hI ⟨r, hr⟩)
  refine ⟨h1, fun r hr => hI.iss_of_done hr (h1 r), fun i hi r hr => ?_⟩
  rw [hI.iss_of_done (hI.members i r hr) (h1 r)]
  exact mem_idsOf hr hi

/-- **matching**: two members of a group issue the same sequence of events on that group -/
theorem match_per_group {S : Events} {n : Nat} {s : Sched2.St} (hI : SInv S n s) (hdone : ∀ r, s.rem r = [])
    (g : List Nat) {r r' : Nat} (hr : r ∈ g) (hr' : r' ∈ g) (hn : r < n) (hn' : r' < n) :
    (s.iss r).filter (fun i => S.getD i [] == g) = (s.iss r').filter (fun i => S.getD i [] == g) := by
  have key : ∀ q, q ∈ g → q < n →
      (s.iss q).filter (fun i => S.getD i [] == g)
        = (List.range S.length).filter (fun i => S.getD i [] == g) := by
    intro q hq hqn
    rw [hI.iss_of_done hqn (hdone q), idsOf, List.filter_filter]
    apply List.filter_congr
    intro i _
    cases hb : (S.getD i [] == g) with
    | false => rfl
    | true => rw [eq_of_beq hb]; simp [hq]
  rw [key r hr hn, key r' hr' hn']

/-! ### Part 2: from a script to programs -/

theorem script_consistent (acts : List GAct) (n : Nat) (h : wf n acts = true) :
    SInv (eventsOf acts) n (initOf acts n) := by
  refine ⟨fun r hr => ?_, fun r hr => ?_, fun i r hr => ?_, fun r hr => ?_⟩
  · simp [initOf, hr, issueIds_progOf]
  · simp only [initOf, hr]
    exact (projectAux_inv n _ r acts []).2 h
  · have hi := lt_len_of_mem hr
    have : (eventsOf acts).getD i [] ∈ eventsOf acts := by
      simp [List.getElem?_eq_getElem hi]
    exact wfAux_members n acts [] h _ this r hr
  · simp [initOf, Nat.not_lt.mpr hr]

/-- what `wf` guarantees about each issue: members are ranks, groups have at least two members
    (single-member groups short-circuit) and broadcast roots are members -/
theorem wf_issue_facts (acts : List GAct) (n : Nat) (h : wf n acts = true) (m : List Nat) (d : Desc)
    (hm : GAct.issue m d ∈ acts) :
    (∀ r ∈ m, r < n) ∧ 2 ≤ m.length ∧ (d.kind = .broadcast → d.root ∈ m) :=
  wfAux_issue_facts n acts [] h m d hm

/-! ### Part 3: the K-FAC state machine -/

/-- **the emitted script is well-formed**: for every world size, assignment, interval pair
    (constant or function of the step), accumulation count, hook/no-hook, bucketed/unbucketed,
    symmetric/dense, method, and every history of whole iterations with save / load / memory
    queries at step boundaries — provided the real code raised no exception (`err = none`) —
    every wait follows the rank's own issue, no getter is reached while its request sits in an
    open bucket, members are ranks, roots are members, single-member groups never communicate. -/
theorem kfac_script_wf (c : Cfg) (hc : CfgOK c) (h : Hyper) (hh : HyperOK h) (ops : List Op)
    (hw : WholeIter c ops) (hho : histHyperOK ops)
    (hne : (run c (Precond.St.init c h) ops).err = none) :
    wf c.world (run c (Precond.St.init c h) ops).acts = true := by
  have _ := hh; have _ := hho; have _ := hne  -- not needed: the invariant holds of raised runs and of any schedules too
  exact (hw.bd hc _ (KV.PI.Bd.init c h)).wf

/-- hence: matching, no deadlock under any schedule, completion — for K-FAC itself -/
theorem kfac_consistent (c : Cfg) (hc : CfgOK c) (h : Hyper) (hh : HyperOK h) (ops : List Op)
    (hw : WholeIter c ops) (hho : histHyperOK ops)
    (hne : (run c (Precond.St.init c h) ops).err = none) :
    SInv (eventsOf (run c (Precond.St.init c h) ops).acts) c.world (initOf (run c (Precond.St.init c h) ops).acts c.world) :=
  script_consistent _ _ (kfac_script_wf c hc h hh ops hw hho hne)

/-- for ARBITRARY histories (any number of passes between steps, queries anywhere) everything
    except "no getter reached while queued" still holds: waits follow own issues, members are
    ranks, roots are members.  (`wfAuxS` = `wfAux` with stalls tolerated.) -/
theorem kfac_script_wf_any_history (c : Cfg) (hc : CfgOK c) (h : Hyper) (ops : List Op)
    (hne : (run c (Precond.St.init c h) ops).err = none) :
    wfAuxS c.world [] (run c (Precond.St.init c h) ops).acts = true := by
  have _ := hne  -- not needed
  exact (wfAuxS_eq_wfS ..).trans (KV.PI.wfS_run c hc.asgOK h ops)

/-! ### Part 4: what is computed does not depend on the interleaving (M-SchedVal) -/

theorem disciplined_step {σ β : Type} (S : SchedV.Sys β) {s s' : SchedV.St σ β}
    (hd : SchedV.Disciplined S s) (h : SchedV.Step S s s') : SchedV.Disciplined S s' := by
  obtain ⟨r, a, t, h1, _, rfl⟩ := h.inv
  exact SchedV.disciplined_fire S hd h1

/-- **diamond**: two different enabled steps commute -/
theorem diamond {σ β : Type} (S : SchedV.Sys β) {s a b : SchedV.St σ β} (hd : SchedV.Disciplined S s)
    (ha : SchedV.Step S s a) (hb : SchedV.Step S s b) :
    a = b ∨ ∃ c, SchedV.Step S a c ∧ SchedV.Step S b c := by
  obtain ⟨r1, a1, t1, h1, e1, rfl⟩ := ha.inv
  obtain ⟨r2, a2, t2, h2, e2, rfl⟩ := hb.inv
  by_cases hr : r1 = r2
  · subst hr
    rw [h1] at h2
    injection h2 with ha ht
    subst ha; subst ht
    exact Or.inl rfl
  · refine Or.inr ⟨SchedV.fire S (SchedV.fire S s r1 a1 t1) r2 a2 t2, ?_, ?_⟩
    · refine SchedV.Step.of_fire ?_ (SchedV.en_fire S s r1 a1 t1 e2)
      rw [SchedV.rem_fire_ne S s a1 t1 (Ne.symm hr)]; exact h2
    · rw [SchedV.fire_comm S hd hr h1 h2 e1 e2]
      refine SchedV.Step.of_fire ?_ (SchedV.en_fire S s r2 a2 t2 e1)
      rw [SchedV.rem_fire_ne S s a2 t2 hr]; exact h1

/-- **every interleaving computes the same thing**: two complete executions from the same
    disciplined state (whatever the scheduler did) end in the same state — same local states on every
    rank, same payloads, all programs consumed equally -/
theorem every_interleaving_same_result {σ β : Type} (S : SchedV.Sys β) {s t u : SchedV.St σ β}
    (hd : SchedV.Disciplined S s) (n : Nat) (hfin : ∀ r, n ≤ r → s.rem r = [])
    (ht : SchedV.Reach S s t) (hu : SchedV.Reach S s u)
    (tt : SchedV.Terminal S t) (tu : SchedV.Terminal S u) : t = u := by
  -- Newman's argument: induction on the remaining work, closing each diamond at a terminal state
  generalize hk : SchedV.size s n = k
  induction k using Nat.strongRecOn generalizing s t u with
  | ind k ih =>
    rcases ht.cases_head with rfl | ⟨a, sa, hat⟩
    · rcases hu.cases_head with rfl | ⟨b, sb, _⟩
      · rfl
      · exact absurd ⟨b, sb⟩ tt
    · rcases hu.cases_head with rfl | ⟨b, sb, hbu⟩
      · exact absurd ⟨a, sa⟩ tu
      · have la := SchedV.size_step (n := n) hfin sa
        have lb := SchedV.size_step (n := n) hfin sb
        have da := disciplined_step S hd sa
        have db := disciplined_step S hd sb
        have ia := SchedV.idle_step hfin sa
        have ib := SchedV.idle_step hfin sb
        rcases diamond S hd sa sb with hab | ⟨c, ac, bc⟩
        · subst hab
          exact ih _ (hk ▸ la) da ia hat hbu tt tu rfl
        · obtain ⟨w, cw, tw⟩ := SchedV.exists_terminal S n _ c rfl (SchedV.idle_step ia ac)
          rw [ih _ (hk ▸ la) da ia hat (SchedV.Reach.head ac cw) tt tw rfl,
            ih _ (hk ▸ lb) db ib hbu (SchedV.Reach.head bc cw) tu tw rfl]

end KV.C03
