/-
C05 — update intervals and hyper-parameter schedules are honoured over any history.
`refines`: the distributed machine M-Precond (tied to the code by the correspondence) produces, on
every rank, the gradients of the reference machine KV.Spec fed the same history.  The other theorems
spell out what the reference machine does with intervals and schedules (`soOf` is defined in
Lemmas/SpecFrames.lean).
-/
import KfacVerif.Lemmas.Refine

namespace KV.C05
open KV KV.Precond KV.Spec

/-- **refinement**: gradients, step count, registered factor values and factors of every rank equal
    those of the reference state machine, for every configuration, schedule and history (of any
    length, any interleaving of train/eval passes, reset_batch, checkpoint round trips, scheduler
    changes) on which the real code raises no exception -/
theorem refines (c : Cfg) (hc : Refine.CfgOK2 c) (h : Hyper) (ops : List Op)
    (hne : (Precond.run c (St.init c h) ops).err = none) :
    let s := Precond.run c (St.init c h) ops
    let t := Spec.run (ofCfg c) (SSt.init (ofCfg c) h) ops
    s.steps = t.steps ∧ s.defs = t.defs ∧
    (∀ r, r < c.world → s.outGrads.getD r [] = t.out) ∧
    (∀ r l, r < c.world → l < c.layers.length →
      ((getL s r l).aFactor.map (·.val)) = (getS t l).aFactor ∧
      ((getL s r l).gFactor.map (·.val)) = (getS t l).gFactor) :=
  Refine.refines c hc h ops hne

/-- the step count grows by exactly one per step and by nothing else -/
theorem steps_increment (c : SCfg) (s : SSt) (op : Op) :
    (Spec.exec c s op).steps = if (match op with | .step => true | _ => false) then s.steps + 1 else s.steps := by
  cases op with
  | fwdBwd t => exact (fwdBwd_frame c s t).1
  | step => exact congrArg SSt.steps (step_eq c s)
  | resetBatch => exact fr_steps (fr_resetBatch c s)
  | memUsage => rfl
  | save f => rfl
  | saveLoad f ci => exact (saveLoad_scalars c s f ci).1
  | setHyper h => rfl

/-- micro-step counters are cleared by every step -/
theorem ministeps_cleared (c : SCfg) (s : SSt) : (Spec.step c s).mini = List.replicate c.nLayers 0 := rfl

/-- **factors change only on multiples of the factor-update interval** (train pass and step) -/
theorem factors_frozen_off_multiples (c : SCfg) (s : SSt) (hoff : s.steps % s.hyper.fus.val s.steps ≠ 0)
    (l : Nat) :
    (getS (Spec.fwdBwd c s true) l).aFactor = (getS s l).aFactor ∧
    (getS (Spec.fwdBwd c s true) l).gFactor = (getS s l).gFactor ∧
    (getS (Spec.step c s) l).aFactor = (getS s l).aFactor ∧
    (getS (Spec.step c s) l).gFactor = (getS s l).gFactor ∧
    (Spec.fwdBwd c s true).defs = s.defs ∧ (Spec.step c s).defs = s.defs := by
  -- off a multiple `step` skips its factor phase, and the inverse phase touches neither factors nor `defs`
  have hb : (!c.hook && s.steps % s.hyper.fus.val s.steps == 0) = false := by
    rw [beq_false_of_ne hoff, Bool.and_false]
  have hf : facOf (getS (Spec.step c s) l) = facOf (getS s l) := by
    rw [step_layers, hb]
    exact stepB_pres (fun t => facOf (getS t l)) _ _ _
      (fun t a => refresh_proj facOf (fun _ _ _ _ _ _ _ _ => rfl) c t a _ l) _
  have hd : (Spec.step c s).defs = s.defs := by
    rw [step_eq, hb]
    exact stepB_pres SSt.defs _ _ _ (fun t a => refresh_defs c t a _) _
  rw [fwdBwd_off c s hoff]
  exact ⟨rfl, rfl, congrArg Prod.fst hf, congrArg Prod.snd hf, rfl, hd⟩

/-- eval-mode passes change nothing at all (reference machine and distributed machine) -/
theorem eval_noop (c : SCfg) (s : SSt) (c' : Cfg) (s' : St) :
    Spec.fwdBwd c s false = s ∧ Precond.fwdBwd c' s' false = s' :=
  ⟨rfl, rfl⟩

/-- **second-order data is recomputed only on multiples of the inverse-update interval**: on any
    other step the stale data is kept … -/
theorem so_frozen_off_multiples (c : SCfg) (s : SSt) (hoff : s.steps % s.hyper.ius.val s.steps ≠ 0)
    (l : Nat) : soOf (getS (Spec.step c s) l) = soOf (getS s l) := by
  rw [step_layers, beq_false_of_ne hoff]
  exact stepA_proj soOf (fun _ _ _ _ _ => rfl) _ _ _ _ _

/-- … and on a multiple (always on step 0) every layer's data is recomputed from the factors as
    they are after this step's factor update, with the damping of this step -/
theorem refresh_on_multiples (c : SCfg) (s : SSt) (hon : s.steps % s.hyper.ius.val s.steps = 0)
    (l : Nat) (hl : l < c.nLayers) (hlen : s.layers.length = c.nLayers) :
    let x := getS (Spec.step c s) l
    let d := s.hyper.damping.val s.steps
    match c.method with
    | .inverse => x.aInv = some (.inv (x.aFactor.getD .zero) d) ∧ x.gInv = some (.inv (x.gFactor.getD .zero) d)
    | .eigen =>
      x.qa = some (.eigQ (x.aFactor.getD .zero)) ∧ x.qg = some (.eigQ (x.gFactor.getD .zero)) ∧
      (if c.prediv then x.dgda = some (.outerInv (.eigD (x.gFactor.getD .zero)) (.eigD (x.aFactor.getD .zero)) d)
       else x.da = some (.eigD (x.aFactor.getD .zero)) ∧ x.dg = some (.eigD (x.gFactor.getD .zero))) := by
  -- the inverse phase leaves layer `l` as `rfL c d` of what the factor phase left; the fields are read off `rfL`
  rw [step_layers, beq_iff_eq.mpr hon, stepB_rfL c (s.hyper.damping.val s.steps) _ l hl
    ((fr_len (fr_stepA c (!c.hook && s.steps % s.hyper.fus.val s.steps == 0) (s.hyper.decay.val s.steps) s)).trans hlen)]
  unfold rfL
  cases c.method
  · cases c.prediv <;> simp
  · simp

theorem step_zero_refreshes (h : Hyper) : 0 % h.ius.val 0 = 0 := Nat.zero_mod _

/-- **schedules are evaluated at the current step count**: a step depends on the six
    hyper-parameters only through their values at `s.steps` -/
theorem schedules_read_at_current_step (c : SCfg) (s : SSt) (h' : Hyper)
    (e1 : h'.fus.val s.steps = s.hyper.fus.val s.steps) (e2 : h'.ius.val s.steps = s.hyper.ius.val s.steps)
    (e3 : h'.damping.val s.steps = s.hyper.damping.val s.steps) (e4 : h'.decay.val s.steps = s.hyper.decay.val s.steps)
    (e5 : h'.kl.val s.steps = s.hyper.kl.val s.steps) (e6 : h'.lr.val s.steps = s.hyper.lr.val s.steps) :
    let a := Spec.step c s
    let b := Spec.step c { s with hyper := h' }
    a.out = b.out ∧ a.layers = b.layers ∧ a.defs = b.defs ∧ a.steps = b.steps := by
  have h : Spec.step c { s with hyper := h' } = { Spec.step c s with hyper := h' } :=
    step_wh c s h' e1 e2 e3 e4 e5 e6
  rw [h]
  exact ⟨rfl, rfl, rfl, rfl⟩

/-- **damping baked in at refresh time**: for the inverse method and for pre-divided eigenvalues the
    preconditioned gradient does not depend on the damping of the current step (only on the data
    computed at the last refresh); for plain eigen it uses the damping of the current step -/
theorem damping_baked_at_refresh (c : SCfg) (s : SSt) (l : Nat) (d d' : Rat)
    (hm : c.method = .inverse ∨ c.prediv = true) : Spec.precond c s l d = Spec.precond c s l d' := by
  unfold Spec.precond
  rcases hm with hm | hm
  · simp [hm]
  · cases c.method <;> simp [hm]

end KV.C05
