/-
C08 — bucketed allreduce is equivalent to per-tensor allreduce.
Model: KV.Comm (CState, allreduceBucketed, flush, run) = TorchDistributedCommunicator +
AllreduceTensorBucket of kfac/distributed.py.
-/
import KfacVerif.Lemmas.Bucket
import KfacVerif.Lemmas.BucketLink
import KfacVerif.Lemmas.CommValL

namespace KV.C08
open KV KV.Comm

/-- **each tensor exactly once, on its own group**: after a final flush the (group, request)
    pairs carried by the issued all-reduces are a permutation of the accepted requests. -/
theorem each_tensor_once (cap : Nat) (ops : List Op) (h : onlyBucketed ops) :
    ((run (init cap) (ops ++ [.flush])).2.flatMap fun e => (Event.tids e).map fun t => (Event.group e, t)).Perm
      (submitted ops) := by
  rw [run_append_flush, flush_events]
  exact run_pairs_perm (init cap) ops h (KeysND_init cap)

/-- **FIFO per group**: on every group the requests are communicated in submission order
    (so all members of the group, who submit the same sequence, issue the same all-reduces). -/
theorem fifo_per_group (cap : Nat) (ops : List Op) (h : onlyBucketed ops) (g : Key) :
    ((run (init cap) (ops ++ [.flush])).2.filter (fun e => Event.group e == g)).flatMap Event.tids
      = ((submitted ops).filter (fun p => p.1 == g)).map (·.2) := by
  rw [run_append_flush, flush_events]
  exact run_fifo (init cap) ops g h (KeysND_init cap)

/-- **independence of groups**: what is issued on group `g` depends only on the requests for `g`
    and on the flush points — never on traffic for other groups sharing the communicator. -/
theorem group_projection (cap : Nat) (ops : List Op) (h : onlyBucketed ops) (g : Key) :
    (run (init cap) ops).2.filter (fun e => Event.group e == g)
      = (run (init cap) (ops.filter fun op => match op with
            | .reduceB g' _ _ _ _ _ => g' == g
            | _ => true)).2.filter (fun e => Event.group e == g) := by
  refine (run_sim (init cap) ops g h (KeysND_init cap)).2.1.trans ?_
  rw [← gRun_filter]
  exact (run_sim (init cap) _ g (onlyBucketed_filter h _) (KeysND_init cap)).2.1.symm

/-- **capacity**: a fused all-reduce never exceeds the capacity unless it carries a single
    (oversized) tensor. Request ids are assumed distinct (they are call sites). -/
theorem cap_respected (cap : Nat) (ops : List Op) (h : onlyBucketed ops)
    (hd : (tidsOf ops).Nodup) :
    ∀ e ∈ (run (init cap) ops).2,
      ((Event.tids e).map (bytesOf ops)).sum ≤ cap ∨ (Event.tids e).length = 1 := by
  intro e he
  exact (run_events_ok cap (bytesOf ops) (dtypeOf ops) ops h (ops_good ops hd) e he).1

/-- **dtype**: all requests fused into one all-reduce have the same dtype (so flattening does
    not promote, and every future keeps its tensor's dtype) -/
theorem dtype_homogeneous (cap : Nat) (ops : List Op) (h : onlyBucketed ops)
    (hd : (tidsOf ops).Nodup) :
    ∀ e ∈ (run (init cap) ops).2, ∀ a ∈ Event.tids e, ∀ b ∈ Event.tids e,
      dtypeOf ops a = dtypeOf ops b := by
  intro e he
  exact (run_events_ok cap (bytesOf ops) (dtypeOf ops) ops h (ops_good ops hd) e he).2

/-- **nothing pending after a flush**, and a second flush does nothing -/
theorem empty_after_flush (s : CState) : pending (flush s).1 = [] :=
  pending_flush s

theorem flush_idempotent (s : CState) : flush (flush s).1 = ((flush s).1, []) :=
  flush_of_allnone _ (allnone_flush s)

/-- every request not yet communicated is pending in a bucket: nothing is lost before the flush -/
theorem pending_or_issued (cap : Nat) (ops : List Op) (h : onlyBucketed ops) :
    (((run (init cap) ops).2.flatMap Event.tids) ++ pending (run (init cap) ops).1).Perm
      ((submitted ops).map (·.2)) := by
  have hp := (run_pairs_perm (init cap) ops h (KeysND_init cap)).map (·.2)
  rw [evPairs_map_snd, List.flatMap_append, ← pending_eq] at hp
  exact hp

/-- single-member groups short-circuit: nothing is communicated, the tensor is returned -/
theorem single_member_noop (s : CState) (r tid : Nat) (shape : List Nat) (es dt : Nat) (sym : Bool) :
    allreduceBucketed s [r] tid shape es dt sym = (s, [], .same) ∧
    allreduce s [r] tid shape sym = (s, [], .same) := by
  simp [allreduceBucketed, allreduce]

/-- **value**: flatten → all-reduce (elementwise sum over ranks) → unflatten gives every
    request exactly the sum an unbucketed all-reduce of that tensor would give.
    `X r` = the tensors rank `r` put in the bucket, all ranks with the same lengths `lens`. -/
theorem value_eq_unbucketed (lens : List Nat) (X : List (List (List Int))) (hne : X ≠ [])
    (hl : ∀ xs ∈ X, xs.map List.length = lens) :
    unflatten lens (sumRanks (X.map flatten))
      = (List.range lens.length).map fun i => sumRanks (X.map fun xs => xs.getD i []) := by
  have _ := hne  -- not needed: with no ranks both sides are `lens.length` empty tensors
  exact CommVL.unflatten_sumRanks lens X id hl

section PrecondLink
open KV.Precond

/-! ### the bucket inside M-Precond IS the bucket state machine of M-Comm
    (so everything proved above about `TorchDistributedCommunicator` applies to the factor
    all-reduces of the K-FAC state machine) -/

/-- `flush_allreduce_buckets()`: same events, nothing pending afterwards -/
theorem flush_sim (c : Cfg) (s : St) :
    issuesOf (newActs s (flushBucket c s)) = eventsOf (Comm.flush (absBucket c s)).2 ∧
    (flushBucket c s).bucket = [] ∧ Comm.pending (Comm.flush (absBucket c s)).1 = [] :=
  BucketLink.flush_link c s

/-- `reduce_*_factor` with bucketing: the request goes through `allreduce_bucketed` of M-Comm —
    same emitted all-reduce (if the capacity test fires), same resulting open bucket -/
theorem reduce_sim (c : Cfg) (s : St) (l : Nat) (isA : Bool) (hb : c.bucketed = true) (hw : c.world ≠ 1)
    (hne : (reduceFactor c s l isA).err = none) (hs : s.err = none) :
    let n := if isA then (c.layers.getD l ⟨0, 0⟩).aDim else (c.layers.getD l ⟨0, 0⟩).gDim
    let r := Comm.allreduceBucketed (absBucket c s) (worldRanks c) s.nextReq [n, n] c.fe 0 c.symAware
    issuesOf (newActs s (reduceFactor c s l isA)) = eventsOf r.2.1 ∧
    absBucket c (reduceFactor c s l isA) = r.1 ∧ r.2.2 = .future := by
  have _ := hs  -- not needed: follows from hne
  exact BucketLink.reduce_link c s l isA hb hw hne

end PrecondLink

/-! ## values through the bucketed all-reduce (M-CommVal)

Model: KV.CommV (Model/CommVal.lean) = the capacity/dtype rule of `allreduce_bucketed`, flatten, one
elementwise all-reduce per bucket, unflatten with the member's own sizes.  Tied to the code on every run
by the value stream of the C08 check (every member's result for every tensor compared exactly). -/
section Values
open KV.CommV

/-- **bucketed ≡ per-tensor, at the level of values**: whatever the capacity, the element size, the
    dtypes and the sizes of the tensors — when all members of the group submit the same requests
    (SPMD: ids, dtypes and sizes agree, payloads differ) every member gets back, for each of its tensors
    and in submission order, exactly the elementwise sum over the members of that tensor: the result of
    the per-tensor all-reduce -/
theorem bucketed_equals_per_tensor (cap esize : Nat) (members : List (List Sub)) (m : Nat)
    (hm : m < members.length)
    (hs : ∀ a ∈ members, ∀ b ∈ members, sameShape a b = true) :
    results cap esize members m = perTensor members m := by
  have hshp : ∀ x ∈ members, members[m].map (CommVL.toItem esize) = x.map (CommVL.toItem esize) :=
    fun x hx => CommVL.sameShape_toItem esize (hs _ (List.getElem_mem hm) x hx)
  rw [CommVL.results_eq_unflatten cap esize members m hm hshp,
    CommVL.perTensor_eq_unflatten members m hm fun x hx => (CommVL.map_len_of_toItem (hshp x hx)).symm]

/-- **the value model cuts buckets exactly where the communicator model (M-Comm) does**: the events
    M-Comm emits for a group when the same requests are submitted and the buckets are flushed are, one
    by one, the buckets of `split` (same request ids in the same order, same total element count) -/
theorem split_matches_comm (cap esize : Nat) (g : Comm.Key) (hg : g.length ≠ 1) (subs : List Sub) :
    (Comm.run { cap := cap, buckets := [] }
        (subs.map (fun s => Comm.Op.reduceB g s.tid [s.data.length] esize s.dtype false) ++ [Comm.Op.flush])).2
      = (split cap esize subs []).map fun b =>
          Comm.Event.allreduce g (b.map (·.tid)) ((b.map fun s => s.data.length).sum) :=
  CommVL.run_split cap esize g hg subs [] [] (Or.inr ⟨rfl, rfl⟩)

/-- every submitted tensor is in exactly one bucket, in submission order -/
theorem split_flatten (cap esize : Nat) (subs : List Sub) :
    (split cap esize subs []).flatten = subs := by
  simpa using CommVL.split_flatten_gen cap esize subs []

/-- **capacity**: a bucket that holds more than one tensor fits the capacity (a tensor larger than
    the capacity travels alone) -/
theorem split_capacity (cap esize : Nat) (subs : List Sub) (b : List Sub) (hb : b ∈ split cap esize subs [])
    (h2 : 2 ≤ b.length) : bucketBytes esize b ≤ cap := by
  refine CommVL.split_inv (fun b => 2 ≤ b.length → bucketBytes esize b ≤ cap) cap esize
    (fun s h => ?_) (fun cur s _ hf _ => ?_) subs [] (fun h => ?_) b hb h2
  · simp at h
  · simp only [CommV.flushNow, Bool.or_eq_false_iff, decide_eq_false_iff_not, Nat.not_lt] at hf
    simpa [bucketBytes] using hf.1
  · simp at h

/-- a bucket never mixes dtypes -/
theorem split_dtype (cap esize : Nat) (subs : List Sub) (b : List Sub) (hb : b ∈ split cap esize subs [])
    (x y : Sub) (hx : x ∈ b) (hy : y ∈ b) : x.dtype = y.dtype := by
  refine CommVL.split_inv (fun b => ∀ x ∈ b, ∀ y ∈ b, x.dtype = y.dtype) cap esize
    (fun s x hx y hy => ?_) (fun cur s hcur hf => ?_) subs [] (fun x hx => ?_) b hb x hx y hy
  · rw [List.mem_singleton.1 hx, List.mem_singleton.1 hy]
  · refine homog_append Sub.dtype hcur fun h hh => ?_
    simp only [CommV.flushNow, Bool.or_eq_false_iff] at hf
    rw [Option.mem_def.1 hh] at hf
    simpa using hf.2
  · cases hx

/-- non-vacuity: three members, capacity 16 bytes, a dtype switch, a tensor larger than the capacity
    and an empty tensor -/
example :
    let mk (r : Int) : List Sub := [⟨0, 0, [1 * r, 2 * r]⟩, ⟨1, 0, [3 * r]⟩, ⟨2, 1, [5 * r]⟩, ⟨3, 1, [1, 2, 3, 4, r]⟩, ⟨4, 1, []⟩]
    results 16 4 [mk 1, mk 10, mk 100] 1 = perTensor [mk 1, mk 10, mk 100] 1 ∧
    (split 16 4 (mk 1) []).map (fun b => b.map (·.tid)) = [[0, 1], [2], [3], [4]] := by
  decide +kernel

end Values

end KV.C08
