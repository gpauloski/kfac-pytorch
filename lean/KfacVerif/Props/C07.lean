/-
C07 — KL clipping bounds the update and only rescales it.
Over ℝ: nu = min(1, sqrt(kl / |S·lr²|)) (1 when S·lr² = 0) is positive, at most one, satisfies the
bound, and its square is the rational `KV.Alg.nuSq` the correspondence compares exactly with
`_compute_grad_scale`; in the reference machine (which M-Precond refines on every rank, C05
`refines`) one and the same nu multiplies every layer.
-/
import KfacVerif.Lemmas.ClipAlg

namespace KV.C07

theorem nu_pos (kl lr S : ℝ) (hk : 0 < kl) : 0 < nu kl lr S := by
  by_cases h : S * lr ^ 2 = 0
  · rw [nu_zero _ _ _ h]; exact one_pos
  · rw [nu_nz _ _ _ h]
    exact lt_min one_pos (Real.sqrt_pos.mpr (div_pos hk (abs_pos.mpr h)))

theorem nu_le_one (kl lr S : ℝ) : nu kl lr S ≤ 1 := by
  by_cases h : S * lr ^ 2 = 0
  · rw [nu_zero _ _ _ h]
  · rw [nu_nz _ _ _ h]; exact min_le_left _ _

theorem bound' (kl lr S : ℝ) (hk : 0 ≤ kl) : nu kl lr S ^ 2 * (lr ^ 2 * |S|) ≤ kl := by
  rw [← abs_S_lr]
  by_cases h : S * lr ^ 2 = 0
  · rw [h]; simpa using hk
  · have hz : 0 < |S * lr ^ 2| := abs_pos.mpr h
    rw [nu_sq _ _ _ hk h]
    exact (mul_le_mul_of_nonneg_right (min_le_right _ _) hz.le).trans_eq (div_mul_cancel₀ _ hz.ne')

/-- **the bound**: `nu² · lr² · |Σ<V,D>| ≤ kl_clip` -/
theorem bound (kl lr S : ℝ) (hk : 0 ≤ kl) : nu kl lr S ^ 2 * lr ^ 2 * |S| ≤ kl ∨ S * lr ^ 2 = 0 :=
  Or.inl (by rw [mul_assoc]; exact bound' kl lr S hk)

/-- a zero inner product (or zero learning rate) gives `nu = 1` -/
theorem zero_inner (kl lr S : ℝ) (h : S * lr ^ 2 = 0) : nu kl lr S = 1 :=
  nu_zero kl lr S h

/-- clipping is inactive exactly when the unclipped update already satisfies the bound -/
theorem inactive_iff (kl lr S : ℝ) (hk : 0 < kl) (hs : S * lr ^ 2 ≠ 0) :
    nu kl lr S = 1 ↔ lr ^ 2 * |S| ≤ kl := by
  have _ := hk  -- (not needed: `kl ≤ 0` makes both sides false)
  have hz : 0 < |S * lr ^ 2| := abs_pos.mpr hs
  rw [nu_nz _ _ _ hs, min_eq_left_iff, Real.one_le_sqrt, ← abs_S_lr, one_le_div hz]

/-- the executable rational `KV.Alg.nuSq` is `nu²` -/
theorem nuSq_spec (kl lr S : ℚ) (hk : 0 ≤ kl) :
    ((KV.Alg.nuSq kl lr S : ℚ) : ℝ) = nu (kl : ℝ) (lr : ℝ) (S : ℝ) ^ 2 := by
  have e : ((S * lr * lr : ℚ) : ℝ) = (S : ℝ) * (lr : ℝ) ^ 2 := by
    rw [Rat.cast_mul, Rat.cast_mul, mul_assoc, ← pow_two]
  rw [nuSq_eq]
  by_cases h : S * lr * lr = 0
  · rw [if_pos h, nu_zero _ _ _ (by rw [← e, h, Rat.cast_zero]), Rat.cast_one, one_pow]
  · rw [if_neg h, nu_sq _ _ _ (Rat.cast_nonneg.2 hk) (by rw [← e]; exact Rat.cast_ne_zero.2 h), ← e,
      Rat.cast_min, Rat.cast_one, Rat.cast_div, Rat.cast_abs]

/-- the weight/bias split of the code (`[:, :-1]`, `[:, -1:]`) sums to the inner product of the
    combined matrices: `<V, D> = <V_w, D_w> + <V_b, D_b>` -/
theorem inner_split (g a : ℕ) (V D : KV.Alg.Mat) :
    KV.Alg.inner g (a + 1) V D =
      KV.Alg.inner g a V D + KV.Alg.sumTo g fun i => KV.Alg.ent V i a * KV.Alg.ent D i a := by
  simp only [KV.Alg.inner, KV.Alg.sumTo_succ', KV.Alg.sumTo_add_distrib]

open KV.Precond KV.Spec in
/-- **only rescales, one scalar for every layer**: the gradients left by a step are `scale n v_l`
    with one and the same `n` for all layers (and, by C05 `refines`, on all ranks), where `v_l` is
    the unclipped preconditioned gradient; with `kl_clip = None` they are the `v_l` themselves -/
theorem only_rescales (c : SCfg) (s : SSt) :
    let vs := (idxs c).map fun l =>
      let s1 := Spec.step c { s with hyper := { s.hyper with kl := .const none } }
      s1.out.getD l .garbage
    (s.hyper.kl.val s.steps = none → (Spec.step c s).out = vs) ∧
    (∀ k, s.hyper.kl.val s.steps = some k → ∃ n, (Spec.step c s).out = vs.map fun v => V.scale n v) := by
  intro vs
  have hvs : vs = unclipped c s := by
    show (idxs c).map (fun l => (Spec.step c _).out.getD l .garbage) = _
    rw [step_out_noclip]
    have hl : (unclipped c s).length = c.nLayers := by simp [unclipped, idxs]
    rw [idxs, ← hl]
    exact range_map_getD _ _
  rw [hvs]
  constructor
  · intro h
    rw [step_out, h]; rfl
  · intro k h
    rw [step_out, h]
    exact ⟨_, rfl⟩

end KV.C07
