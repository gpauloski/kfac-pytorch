/-
C11 — model-parallel sharding is transparent to GPT-NeoX preconditioning.
Structural theorems about M-NeoxLayer for every model-parallel degree, both parallelism kinds, bias
on/off and all shapes whose sharded dimension is divisible by the degree: gather∘split = id,
split∘gather = id, the emulated scatter delivers shard i to member i, hence after
`preconditioned_grad` member i holds shard i of P(gathered gradient) for ANY preconditioning map P
(in particular the eigen formula of C01); advertised factor shapes are those of the unsharded layer;
which group reduces which factor.  Assignment facts (same model coordinate for data-parallel
sources, primaries) are C12.  The property's "clipping included" is FALSE for degree > 1 (finding F1 in
DESIGN.md): `P` is the preconditioning without the clip scale.
-/
import KfacVerif.Lemmas.NeoxLayerL
import KfacVerif.Lemmas.NeoxScriptL
import KfacVerif.Lemmas.ResumeScriptL
import KfacVerif.Props.C03

namespace KV.C11
open KV KV.NeoxL

def RowsOK (mp : Nat) (A : Mat) : Prop := 0 < mp ∧ mp ∣ A.length
def ColsOK (mp cols : Nat) (A : Mat) : Prop := 0 < mp ∧ mp ∣ cols ∧ ∀ r ∈ A, r.length = cols

theorem gather_split_rows (mp : Nat) (A : Mat) (h : RowsOK mp A) : gatherRows (splitRows mp A) = A :=
  flatten_chunks_all _ _ _ (Nat.mul_div_cancel' h.2).symm

theorem split_gather_rows (mp k : Nat) (parts : List Mat) (hl : parts.length = mp) (hk : 0 < k)
    (hp : ∀ p ∈ parts, p.length = k) : splitRows mp (gatherRows parts) = parts := by
  have _ := hk  -- not needed by the proof
  unfold gatherRows splitRows
  refine List.ext_getElem (by rw [List.length_map, List.length_range, hl]) fun i h1 h2 => ?_
  -- an index below `mp` makes `mp` positive, so the chunk length is `k`
  have hpos : 0 < mp := Nat.zero_lt_of_lt (hl ▸ h2)
  rw [List.getElem_map, List.getElem_range, length_flatten_const parts k hp, hl, Nat.mul_div_cancel_left _ hpos]
  exact chunk_flatten parts k hp i h2

theorem gather_split_cols (mp cols : Nat) (A : Mat) (h : ColsOK mp cols A) :
    gatherCols A.length (splitCols mp cols A) = A := by
  unfold gatherCols splitCols
  refine List.ext_getElem (by rw [List.length_map, List.length_range]) fun i h1 h2 => ?_
  rw [List.getElem_map, List.getElem_range, List.map_map]
  -- row `i` of every column block is a chunk of row `i` of `A`
  have : ((fun p : Mat => p.getD i []) ∘ fun j => A.map fun r => (r.drop (j * (cols / mp))).take (cols / mp))
      = fun j => (A[i].drop (j * (cols / mp))).take (cols / mp) :=
    funext fun j => getD_map_of_lt _ A i [] h2
  rw [this]
  exact flatten_chunks_all _ _ _ ((h.2.2 _ (List.getElem_mem h2)).trans (Nat.mul_div_cancel' h.2.1).symm)

theorem split_gather_cols (mp k rows : Nat) (parts : List Mat) (hl : parts.length = mp) (hk : 0 < k)
    (hp : ∀ p ∈ parts, p.length = rows ∧ ∀ r ∈ p, r.length = k) :
    splitCols mp (mp * k) (gatherCols rows parts) = parts := by
  have _ := hk  -- not needed by the proof
  unfold gatherCols splitCols
  refine List.ext_getElem (by rw [List.length_map, List.length_range, hl]) fun j h1 h2 => ?_
  have hpos : 0 < mp := Nat.zero_lt_of_lt (hl ▸ h2)
  have hpj := hp _ (List.getElem_mem h2)
  rw [List.getElem_map, List.getElem_range, Nat.mul_div_cancel_left _ hpos, List.map_map]
  refine List.ext_getElem (by rw [List.length_map, List.length_range, hpj.1]) fun i hi1 hi2 => ?_
  -- row `i` of the gathered matrix is the concatenation of the rows `i` of the parts, each of length `k`
  have hall : ∀ q ∈ parts.map (fun p : Mat => p.getD i []), q.length = k := by
    intro q hq
    obtain ⟨p, hpm, rfl⟩ := List.mem_map.1 hq
    rw [← List.getElem_eq_getD (h := (hp p hpm).1 ▸ hpj.1 ▸ hi2)]
    exact (hp p hpm).2 _ (List.getElem_mem _)
  rw [List.getElem_map, List.getElem_range, Function.comp, chunk_flatten _ k hall j (by rwa [List.length_map]),
    List.getElem_map]
  exact (List.getElem_eq_getD _).symm
/-- the scatter emulated with reduce_scatter (shards from the primary, zeros from everyone else)
    delivers exactly shard `i` to member `i` -/
theorem scatter_is_shard (mp primary i : Nat) (shards : List Mat) (hp : primary < mp) (hi : i < shards.length) :
    scatterFrom mp primary shards i = shards.getD i [] :=
  scatterFrom_eq mp primary i shards hp hi

/-- **every member ends with its shard of the preconditioned gathered gradient**, for ANY
    preconditioning map `P`: column-parallel without bias -/
theorem shard_of_precond_col (mp primary i : Nat) (w : List Mat) (P : Mat → Mat) (hmp : 0 < mp)
    (hp : primary < mp) (hi : i < mp) (hw : w.length = mp) :
    (neoxPrecond .col mp primary 0 0 w none P i).1 = (splitRows mp (P (gatherRows w))).getD i [] := by
  have _ := hmp; have _ := hw  -- not needed by the proof (`0 < mp` follows from `i < mp`)
  rw [neoxPrecond_eq .col mp primary i 0 0 w none P hp hi]; rfl

/-- the same, row-parallel without bias -/
theorem shard_of_precond_row (mp primary i rows wcols : Nat) (w : List Mat) (P : Mat → Mat) (hmp : 0 < mp)
    (hp : primary < mp) (hi : i < mp) (hw : w.length = mp) :
    (neoxPrecond .row mp primary rows wcols w none P i).1 = (splitCols mp wcols (P (gatherCols rows w))).getD i [] := by
  have _ := hmp; have _ := hw  -- not needed by the proof
  rw [neoxPrecond_eq .row mp primary i rows wcols w none P hp hi]; rfl

/-- the same for either kind, with or without bias: `neoxPrecond = shardOf ∘ P ∘ gatherCombined` -/
theorem shard_of_precond (par : Par) (mp primary i rows wcols : Nat) (w : List Mat)
    (b : Option (List (List Rat))) (P : Mat → Mat) (hmp : 0 < mp) (hp : primary < mp) (hi : i < mp) :
    neoxPrecond par mp primary rows wcols w b P i =
      shardOf par mp b.isSome wcols (P (gatherCombined par rows w b primary)) i := by
  have _ := hmp  -- not needed by the proof
  exact neoxPrecond_eq par mp primary i rows wcols w b P hp hi

/-- identity preconditioning returns every rank's own shard (nothing is permuted or lost):
    column-parallel -/
theorem identity_roundtrip_col (mp primary i k : Nat) (w : List Mat) (hmp : 0 < mp) (hp : primary < mp)
    (hi : i < mp) (hw : w.length = mp) (hk : 0 < k) (hwk : ∀ p ∈ w, p.length = k) :
    (neoxPrecond .col mp primary 0 0 w none id i).1 = w.getD i [] := by
  rw [shard_of_precond_col mp primary i w id hmp hp hi hw]
  exact congrArg (·.getD i []) (split_gather_rows mp k w hw hk hwk)

theorem identity_roundtrip_row (mp primary i k rows : Nat) (w : List Mat) (hmp : 0 < mp) (hp : primary < mp)
    (hi : i < mp) (hw : w.length = mp) (hk : 0 < k)
    (hwk : ∀ p ∈ w, p.length = rows ∧ ∀ r ∈ p, r.length = k) :
    (neoxPrecond .row mp primary rows (mp * k) w none id i).1 = w.getD i [] := by
  rw [shard_of_precond_row mp primary i rows (mp * k) w id hmp hp hi hw]
  exact congrArg (·.getD i []) (split_gather_cols mp k rows w hw hk hwk)

/-- **factor shapes are those of the unsharded layer** -/
theorem factor_shapes_unsharded (mp fullIn fullOut : Nat) (hasBias : Bool) (hmp : 0 < mp)
    (hin : mp ∣ fullIn) (hout : mp ∣ fullOut) :
    aDim .row mp (fullIn / mp) hasBias = fullIn + (if hasBias then 1 else 0) ∧
    gDim .row mp fullOut = fullOut ∧
    aDim .col mp fullIn hasBias = fullIn + (if hasBias then 1 else 0) ∧
    gDim .col mp (fullOut / mp) = fullOut := by
  have _ := hmp  -- not needed by the proof
  simp only [aDim, gDim, Nat.div_mul_cancel hin, Nat.div_mul_cancel hout, and_self]

/-- **reduction groups**: the sharded factor is reduced over the data-parallel group by primaries,
    the replicated factor over all stage peers -/
theorem reduction_groups :
    reduceGroup .row true = .dataParallelOnPrimary ∧ reduceGroup .row false = .stagePeers ∧
    reduceGroup .col true = .stagePeers ∧ reduceGroup .col false = .dataParallelOnPrimary :=
  ⟨rfl, rfl, rfl, rfl⟩

/-- averaging `mp` identical copies per data-parallel replica over all `dp·mp` stage peers is the
    average over the `dp` replicas: the replicated factor is the unsharded layer's factor -/
theorem replicated_mean (dp mp : Nat) (hdp : 0 < dp) (hmp : 0 < mp) (x : Nat → Rat) :
    (((List.range dp).flatMap fun d => (List.range mp).map fun _ => x d).foldl (· + ·) 0) / ((dp * mp : Nat) : Rat)
      = (((List.range dp).map x).foldl (· + ·) 0) / (dp : Rat) := by
  have _ := hdp  -- not needed by the proof (for `dp = 0` both sides are `0`)
  have h2 : (mp : Rat) ≠ 0 := Nat.cast_ne_zero.2 (Nat.pos_iff_ne_zero.1 hmp)
  rw [foldl_flatMap_rep, Nat.cast_mul, zero_add, mul_comm, mul_div_mul_right _ _ h2]

/-! ## the collectives of the GPT-NeoX path as one global script (M-NeoxScript)

Model: KV.NeoxS (Model/NeoxScript.lean) = the communication skeleton of kfac/gpt_neox/layer.py, mpu.py
and of the hook/step() code of base_preconditioner.py under GPTNeoXAssignment, with the bucketing
communicator of M-Comm.  Tied to the code on every run: every rank's issued collectives (kind, members,
element count, root) are compared exactly, in order, with the projection of the script. -/
section NeoxScript
open KV.Neox KV.NeoxS KV.C12 KV.C11S

/-- **the GPT-NeoX script is well formed** for every topology, every layer list, every bucket
    capacity and every history of training passes, steps and checkpoint saves / loads (in memory or
    into a directory, into a fresh or into the running preconditioner): members are ranks of the world,
    no collective is entered by a single rank, every broadcast root is a member.  (The checkpoint calls
    are not short-circuited for a world of one, hence the hypothesis on histories with checkpoints.) -/
theorem neox_script_wf (c : NeoxS.Cfg) (hc : NCfgOK c) (ops : List Op)
    (hw : 2 ≤ c.t.world ∨ ∀ op ∈ ops, op.isCkpt = false) :
    KV.Sched2.wf c.t.world ((run c ops).acts.map toG) = true := by
  refine wfAux_map_toG _ _ _ (fun a ha => ?_)
  exact ((Inv_run (P := True) c hc.topo ops (fun _ => hw)).1 a ha).1 trivial

/-- hence the per-rank programs (projections) satisfy the scheduler invariant: with the generic
    theorems of C03 (`no_deadlock`, `terminal_all_done`, `match_per_group`) no rank ever stalls on
    the GPT-NeoX path under any interleaving, and members of a group issue matching sequences -/
theorem neox_consistent (c : NeoxS.Cfg) (hc : NCfgOK c) (ops : List Op)
    (hw : 2 ≤ c.t.world ∨ ∀ op ∈ ops, op.isCkpt = false) :
    KV.Sched2.SInv (KV.Sched2.eventsOf ((run c ops).acts.map toG)) c.t.world
      (KV.Sched2.initOf ((run c ops).acts.map toG) c.t.world) :=
  KV.C03.script_consistent _ _ (neox_script_wf c hc ops hw)

/-- **group-specific communication**: every collective runs on a model-parallel group, on a
    data-parallel group or on the peers of one pipeline stage, and its kind fits the group:
    gathers/scatters only inside model-parallel groups, all-reduces (factors) only over
    data-parallel groups or stage peers, broadcasts inside a model-parallel group (replicated bias)
    or a data-parallel group (preconditioned gradient); the object gather and the barriers of a
    checkpoint run on the whole world -/
theorem neox_groups (c : NeoxS.Cfg) (hc : NCfgOK c) (ops : List Op) (a : NAct) (ha : a ∈ (run c ops).acts) :
    (∃ p d, p < c.t.pp ∧ d < c.t.dp ∧ a.members = modelGroup c p d ∧
        (a.kind = .allgather ∨ a.kind = .reducescatter ∨ a.kind = .broadcast)) ∨
    (∃ p m, p < c.t.pp ∧ m < c.t.mp ∧ a.members = dataGroup c p m ∧
        (a.kind = .allreduce ∨ a.kind = .broadcast)) ∨
    (∃ p, p < c.t.pp ∧ a.members = c.t.stagePeers p ∧ a.kind = .allreduce) ∨
    (a.members = worldGroup c ∧ (a.kind = .gatherobj ∨ a.kind = .barrier)) :=
  ((Inv_run (P := False) c hc.topo ops False.elim).1 a ha).2

/-- **the sharded factor is reduced by exactly the ranks that gathered it**: the data-parallel
    group used by `fwdLayer`/`bwdLayer` for the sharded factor of a layer consists of the ranks of
    the stage that are their own factor worker (primary rank) for that layer, and it contains the
    inverse worker -/
theorem reduce_group_is_primaries (c : NeoxS.Cfg) (hc : NCfgOK c) {p : Nat} (hp : p < c.t.pp)
    (l : Layer) (hl : l ∈ c.stages.getD p []) (loc : Nat) (hloc : loc < c.t.world) (hs : c.t.pipeOf loc = p) :
    (loc ∈ dataGroup c p (c.t.modelOf (invOf c p l)) ↔ (asg c p).factorWorker loc l.name = some loc) ∧
    invOf c p l ∈ dataGroup c p (c.t.modelOf (invOf c p l)) := by
  have h := hc.topo
  obtain ⟨_, hw, hpipe⟩ := invOf_spec h hp hl
  have hm := modelOf_lt h (invOf c p l)
  rw [(workers_asg h hp hl hloc hs).1]
  refine ⟨(mem_dataLine h hp hm loc).trans ?_, (mem_dataLine h hp hm _).2 ⟨hw, hpipe, rfl⟩⟩
  -- the factor worker has the pipe and data coordinates of `loc`, so it is `loc` iff `loc` has its model coordinate
  constructor
  · rintro ⟨_, _, e⟩
    rw [← e, ← hs, rankOf_coords]
  · intro e
    have := congrArg c.t.modelOf (Option.some.inj e)
    rw [modelOf_rankOf hm] at this
    exact ⟨hloc, hs, this.symm⟩

/-- **roots agree with the assignment (C12)**: the gradient broadcast on data-parallel group
    `(p, m)` is rooted at what `src_grad_worker` answers on every member of that group, and the
    replicated-bias broadcast inside the inverse worker's model-parallel group is rooted at the
    inverse worker, which is the factor worker of every member of that group -/
theorem roots_agree (c : NeoxS.Cfg) (hc : NCfgOK c) {p : Nat} (hp : p < c.t.pp)
    (l : Layer) (hl : l ∈ c.stages.getD p []) (loc : Nat) (hloc : loc < c.t.world) (hs : c.t.pipeOf loc = p) :
    (asg c p).srcGradWorker loc l.name = some (c.t.rankOf p (c.t.dataOf (invOf c p l)) (c.t.modelOf loc)) ∧
    (loc ∈ modelGroup c p (c.t.dataOf (invOf c p l)) → (asg c p).factorWorker loc l.name = some (invOf c p l)) := by
  have h := hc.topo
  obtain ⟨hf, hsrc⟩ := workers_asg h hp hl hloc hs
  refine ⟨hsrc, fun hm => ?_⟩
  -- a member of the inverse worker's model-parallel group has its data coordinate
  obtain ⟨_, _, e⟩ := (mem_modelLine h hp (dataOf_lt h _) loc).1 hm
  have hrk := rankOf_coords c.t (invOf c p l)
  rw [(invOf_spec h hp hl).2.2] at hrk
  rw [hf, e, hrk]

/-- **nothing is left in a bucket after a step**: every factor submitted to the bucketed
    communicator has been sent when `step()` returns -/
theorem no_pending_after_step (c : NeoxS.Cfg) (s : St) :
    Comm.pending (stepOp c s).comm = [] :=
  KV.C08.pending_flush _

/-- **iterations that are not factor-update iterations are silent in the hooks** -/
theorem silent_pass (c : NeoxS.Cfg) (s : St) (h : s.steps % c.fus ≠ 0) : trainPass c s = s := by
  rw [trainPass_eq, if_pos (bne_iff_ne.2 h)]

/-- **accumulation / deferred updates**: a training pass that is not the last micro-batch of its
    accumulation window, or any pass when the factors are updated in `step()` instead of the hooks,
    issues nothing but the gathers of the sharded activations and output gradients (no factor
    all-reduce, bucketed or not) -/
theorem pass_only_gathers (c : NeoxS.Cfg) (s : St)
    (h : ¬ (c.hook = true ∧ (s.mini + 1) % c.accum = 0)) :
    ∃ extra, (trainPass c s).acts = s.acts ++ extra ∧ ∀ a ∈ extra, a.kind = .allgather := by
  have hfire : (c.hook && (s.mini + 1) % c.accum == 0) = false := by
    cases hh : c.hook
    · rfl
    · exact (Bool.true_and _).trans (beq_eq_false_iff_ne.2 fun hm => h ⟨hh, hm⟩)
  obtain ⟨as, h1, h2⟩ := execs_emits (c := c) trainI_false_gathers
  rw [trainPass_eq, trainProg, hfire, if_neg Bool.false_ne_true]
  by_cases hf : (s.steps % c.fus != 0) = true
  · rw [if_pos hf]
    exact ⟨[], (List.append_nil _).symm, List.forall_mem_nil _⟩
  · rw [if_neg hf, h2]
    exact ⟨as, rfl, h1⟩

/-- **a checkpoint involves every rank**: each object gather / barrier of the script is in the program
    of every rank of the world (so a rank that skips `state_dict()` or `load_state_dict()`, or returns
    from it early, breaks the script) -/
theorem ckpt_every_rank (c : NeoxS.Cfg) (hc : NCfgOK c) (ops : List Op) (a : NAct) (ha : a ∈ (run c ops).acts)
    (hk : a.kind = .gatherobj ∨ a.kind = .barrier) (r : Nat) (hr : r < c.t.world) :
    a ∈ project r (run c ops).acts := by
  have hm : a.members = worldGroup c := by
    rcases neox_groups c hc ops a ha with ⟨_, _, _, _, _, h⟩ | ⟨_, _, _, _, _, h⟩ | ⟨_, _, _, h⟩ | ⟨h, _⟩
    · rcases hk with hk | hk <;> rw [hk] at h <;> simp at h
    · rcases hk with hk | hk <;> rw [hk] at h <;> simp at h
    · rcases hk with hk | hk <;> rw [hk] at h <;> simp at h
    · exact h
  unfold project
  refine List.mem_filter.2 ⟨ha, ?_⟩
  rw [hm]
  exact List.contains_iff_mem.2 (List.mem_range.2 hr)

/-- **what a checkpoint costs**: `state_dict()` appends exactly one object gather and one barrier
    (memory) or exactly one barrier (directory); `load_state_dict()` exactly one barrier (memory) or
    nothing (directory) — whatever the topology, the layers and the state -/
theorem ckpt_script (c : NeoxS.Cfg) (s : St) (fresh : Bool) :
    (saveOp c false s).acts = s.acts ++ [⟨worldGroup c, .gatherobj, 1, 0⟩, ⟨worldGroup c, .barrier, 1, 0⟩] ∧
    (saveOp c true s).acts = s.acts ++ [⟨worldGroup c, .barrier, 1, 0⟩] ∧
    (loadOp c false fresh s).acts = s.acts ++ [⟨worldGroup c, .barrier, 1, 0⟩] ∧
    (loadOp c true fresh s).acts = s.acts := by
  simp [saveOp, loadOp, emitWorld]

/-- **save then load restores the step count** (and an in-place roll-back returns to the step count of
    the last save, however many steps were taken in between) -/
theorem load_restores_steps (c : NeoxS.Cfg) (s : St) (dir dir' fresh : Bool) (ops : List Op)
    (h : ∀ op ∈ ops, op.isCkpt = false) :
    (loadOp c dir' fresh (ops.foldl (apply c) (saveOp c dir s))).steps = s.steps := by
  rw [loadOp_eq]
  rw [foldl_apply_kept ops _ h, saveOp_eq]

/-- **resuming is transparent for the communication script** (partial): from a state whose communicator
    is as freshly constructed (always the case without bucketing; with bucketing only before the first
    factor reduction) and with no micro-batch counted, saving and loading into a fresh preconditioner,
    then continuing with any history of passes and steps, issues exactly the collectives of the
    uninterrupted run, preceded by those of the checkpoint itself.
    (The state-level form, for communicators that are literally fresh; the statement for every step
    boundary reached by a run, bucketed or not, is `resume_same_script` below.) -/
theorem resume_same_script_partial (c : NeoxS.Cfg) (s : St) (dir : Bool) (ops : List Op)
    (hb : s.comm = { cap := c.cap, buckets := [] }) (hm : s.mini = 0)
    (h : ∀ op ∈ ops, op.isCkpt = false) :
    ∃ ck, (loadOp c dir true (saveOp c dir s)).acts = s.acts ++ ck ∧
      (ops.foldl (apply c) (loadOp c dir true (saveOp c dir s))).acts =
        s.acts ++ ck ++ ((ops.foldl (apply c) s).acts.drop s.acts.length) :=
  resume_same_script_state c s dir ops ⟨by rw [hb], .inl (by rw [hb]; rfl)⟩
    (by rw [hb]; exact List.forall_mem_nil _) hm h

def NoCkpt (ops : List Op) : Prop := ∀ op ∈ ops, op.isCkpt = false

/-- a step boundary: the last op is a step (so every bucket has been flushed and no micro-batch is
    counted), or nothing has happened yet -/
def AtBoundary (pre : List Op) : Prop := pre = [] ∨ pre.getLast? = some Op.step

/-- **resuming is transparent for the communication script** (full statement): for every configuration
    (bucketed or not), every history `pre` of passes and steps that ends at a step boundary, and every
    continuation `ops` of passes and steps: saving, loading into a freshly constructed preconditioner and
    continuing issues exactly the collectives of the uninterrupted run, with those of the checkpoint itself
    in between.  (The running communicator keeps its emptied buckets in first-use order, the fresh one has
    none; the proof shows that every factor-update iteration uses the bucket keys in one canonical order, so
    the two communicators coincide again after the first such iteration and emit the same events before.) -/
theorem resume_same_script (c : NeoxS.Cfg) (dir : Bool) (pre ops : List Op)
    (hpre : NoCkpt pre) (hb : AtBoundary pre) (hops : NoCkpt ops) :
    ∃ ck, (run c (pre ++ [Op.save dir, Op.load dir true])).acts = (run c pre).acts ++ ck ∧
      (run c (pre ++ [Op.save dir, Op.load dir true] ++ ops)).acts =
        (run c pre).acts ++ ck ++ ((run c (pre ++ ops)).acts.drop (run c pre).acts.length) := by
  have hri : RI c (run c pre).comm := RI_run c pre hpre
  have hbd : (∀ e ∈ (run c pre).comm.buckets, e.2 = none) ∧ (run c pre).mini = 0 := by
    rcases hb with rfl | hb
    · exact ⟨List.forall_mem_nil _, rfl⟩
    · obtain ⟨pre', rfl⟩ := List.getLast?_eq_some_iff.1 hb
      rw [run_append]
      exact ⟨KV.C08.allnone_flush _, rfl⟩
  rw [run_append c pre [Op.save dir, Op.load dir true], List.append_assoc, run_append, run_append c pre ops]
  exact resume_same_script_state c (run c pre) dir ops hri hbd.1 hbd.2 hops

/-- non-vacuity: a 2×2×2 topology with one column/row block per stage meets `NCfgOK` and its script
    is not empty -/
def demoCfg : NeoxS.Cfg :=
  { t := ⟨2, 2, 2⟩,
    stages := [[⟨"0", .col, 2, 4, true⟩, ⟨"2", .row, 4, 2, true⟩], [⟨"3", .col, 2, 4, true⟩, ⟨"5", .row, 4, 2, false⟩]],
    tokens := 4, fus := 1, ius := 1, bucketed := true, cap := 200, esize := 8, sym := true, cube := true }

example : (run demoCfg [.train, .step, .save false, .load false true, .train, .step]).acts.length =
    (run demoCfg [.train, .step, .train, .step]).acts.length + 3 := by
  decide +kernel

/-- the hypotheses of `resume_same_script_partial` hold at every step boundary of an unbucketed run -/
example : (run { demoCfg with bucketed := false } [.train, .step]).comm = { cap := demoCfg.cap, buckets := [] } ∧
    (run { demoCfg with bucketed := false } [.train, .step]).mini = 0 := by
  decide +kernel

/-- the hypotheses of `resume_same_script` are met by ordinary bucketed histories -/
example : NoCkpt [Op.train, .step, .train, .step] ∧ AtBoundary [Op.train, .step, .train, .step] ∧ demoCfg.bucketed = true := by
  refine ⟨?_, Or.inr rfl, rfl⟩
  unfold NoCkpt
  decide

example : NCfgOK demoCfg ∧ (run demoCfg [.train, .step]).acts ≠ [] := by
  refine ⟨⟨⟨by decide, by decide, by decide⟩, by decide, ?_⟩, by decide +kernel⟩
  intro p hp
  have : p = 0 ∨ p = 1 := by change p < 2 at hp; omega
  rcases this with rfl | rfl <;> decide


end NeoxScript

end KV.C11
