/-
Witnesses: (1) negation witnesses for the tree as it was before the `fix:` commits / for the known
findings (legacy definitions kept side by side with the repaired model); (2) non-vacuity examples
showing that the hypotheses of the main theorems are met by concrete, non-trivial states.
The concrete facts are closed by kernel evaluation (`decide`, `decide +kernel`): no axioms beyond the
standard ones.
-/
import KfacVerif.Props.C06
import KfacVerif.Props.C12
import KfacVerif.Props.C20
import KfacVerif.Props.C03
import KfacVerif.Props.C14
import KfacVerif.Props.C18

namespace KV.Witness
open KV

/-! ### D1 (C06): IEEE doubles — `98 * (2 / 98) ≠ 2`, so the legacy exact-equality test rejected 2/98 -/
theorem d1_float_product_not_integral :
    (Float.ofNat 98 * (Float.ofNat 2 / Float.ofNat 98) == Float.ofNat 2) = false := by decide +kernel

theorem d1_other_fractions :
    (Float.ofNat 147 * (Float.ofNat 3 / Float.ofNat 147) == Float.ofNat 3) = false ∧
    (Float.ofNat 196 * (Float.ofNat 4 / Float.ofNat 196) == Float.ofNat 4) = false := by decide +kernel

/-- the integer side of the repaired validation accepts it -/
example : Kaisa.validate 98 2 98 0 = .ok 2 := by decide

/-! ### D5 (C12): before fix d975dbf ranks of different stages called `new_group` differently -/
theorem d5_legacy_new_group_order_differs :
    let c : Neox.Cfg := { t := { pp := 2, dp := 2, mp := 2 }, work := [] }
    c.newGroupCallsLegacy 0 ≠ c.newGroupCallsLegacy 4 ∧ c.newGroupCalls 0 = c.newGroupCalls 4 := by decide

/-! ### F3 (C20): a window of 0 is not "the last 0 samples" -/
theorem f3_window_zero_is_everything : Trace.window (some 0) [1, 2, 3] = [1, 2, 3] := by decide
theorem f3_negative_window_drops_prefix : Trace.window (some (-2)) [1, 2, 3] = [3] := by decide
theorem f3_negative_window_zero_division : Trace.stat true (some (-5)) [1, 2, 3] = .zeroDiv := by decide

/-! ### D4 (C08): keying buckets by `range(size)` identifies distinct groups of equal size -/
def legacyKey (g : List Nat) : List Nat := List.range g.length
theorem d4_legacy_key_collision : legacyKey [0, 1] = legacyKey [0, 2] ∧ ([0, 1] : List Nat) ≠ [0, 2] := by decide

/-- a concrete HYBRID configuration (world 4, k 2, CPython order reversed and shuffled) satisfies
    the hypotheses of the C06 theorems -/
def kaisa42 : Kaisa.Cfg :=
  { w := 4, k := 2, colocate := false, gOrder := [[3, 1], [0, 2]],
    work := [("fc1", [("A", 27), ("G", 8)]), ("fc2", [("A", 8), ("G", 1)])] }

example : kaisa42.invWorker "fc1" "A" = some 3 ∧ kaisa42.invWorker "fc1" "G" = some 1 ∧
    kaisa42.workerGroup "fc1" = [1, 3] ∧ kaisa42.srcGradWorker 0 "fc1" = some 1 := by decide

/-- a well-formed script (two ranks, an all-reduce awaited by both, a broadcast) passes `wf` -/
example : Sched2.wf 2
    [.issue [0, 1] ⟨.allreduce, 9, 4, 0⟩, .wait 0 0, .issue [0, 1] ⟨.broadcast, 9, 4, 0⟩, .wait 1 0, .wait 1 1] = true := by
  decide

/-- a script with a wait before the rank's own issue, or with a stall, does not -/
example : Sched2.wf 2 [.wait 0 0, .issue [0, 1] ⟨.allreduce, 9, 4, 0⟩] = false := by decide
example : Sched2.wf 2 [.issue [0, 1] ⟨.allreduce, 9, 4, 0⟩, .stall 1 0] = false := by decide

/-- `WholeIter` is inhabited by the history `[train, train, step, memory_usage]` for accum = 2 -/
example (c : Precond.Cfg) (h : c.accum = 2) :
    C03.WholeIter c [.fwdBwd true, .fwdBwd true, .step, .memUsage] := by
  have := C03.WholeIter.iter (c := c) [.memUsage] (C03.WholeIter.other .memUsage [] rfl rfl C03.WholeIter.nil)
  simpa [h, List.replicate] using this

/-- triangular packing round trip on a concrete symmetric matrix -/
example : Comm.fillTriu 3 (Comm.getTriu [[1, 2, 3], [2, 4, 5], [3, 5, 6]]) = [[1, 2, 3], [2, 4, 5], [3, 5, 6]] := by decide

/-- C18 value level: two ranks of one stage hold the layers `a`, `b` with DIFFERENT values; rank 1 is the
    inverse worker of `a`, rank 0 of `b`; the placement satisfies `PlaceOK`, the state holds the inverse workers'
    values, and a load on the factor workers (here: everybody) overwrites the other rank's stale value -/
example : C18.PlaceOK 2 (fun _ => ["a", "b"]) (fun n => if n = "a" then 1 else 0) :=
  ⟨fun r n hr hn => by
    simp only [List.mem_cons, List.mem_nil_iff, or_false] at hn
    rcases hn with rfl | rfl <;> simp⟩
example :
    NeoxL.mergedVal 2 (fun _ => ["a", "b"]) (fun n => if n = "a" then 1 else 0) (fun r n => (n, r)) "a" = some ("a", 1) ∧
    NeoxL.mergedVal 2 (fun _ => ["a", "b"]) (fun n => if n = "a" then 1 else 0) (fun r n => (n, r)) "b" = some ("b", 0) ∧
    NeoxL.loadVal (fun _ => ["a", "b"]) (fun r _ => r)
      (NeoxL.mergedVal 2 (fun _ => ["a", "b"]) (fun n => if n = "a" then 1 else 0) (fun r n => (n, r)))
      (fun _ n => (n, 99)) 0 "a" = ("a", 1) := by decide

/-- F2 at the value level (C18, model-parallel degree 2): ranks 0 and 1 are model-parallel peers holding the replicated
    layer `a`; rank 0 is its factor worker on both. After a load rank 0 holds the saved value, rank 1 keeps its fresh one —
    the two copies of a replicated factor differ, which is what makes the resumed run deviate (finding F2) -/
example :
    NeoxL.loadVal (fun _ => ["a"]) (fun _ _ => 0)
      (NeoxL.mergedVal 2 (fun _ => ["a"]) (fun _ => 0) (fun r n => (n, r))) (fun r n => (n, 100 + r)) 0 "a" = ("a", 0) ∧
    NeoxL.loadVal (fun _ => ["a"]) (fun _ _ => 0)
      (NeoxL.mergedVal 2 (fun _ => ["a"]) (fun _ => 0) (fun r n => (n, r))) (fun r n => (n, 100 + r)) 1 "a" = ("a", 101) := by
  decide

end KV.Witness
